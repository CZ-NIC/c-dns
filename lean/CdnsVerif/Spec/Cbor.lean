/-
  RFC 8949 (CBOR) – the part of the standard the C-DNS library relies on, written
  independently of the C++ code.  Bytes are natural numbers `< 256` (kept as `Nat` so that
  `omega` can reason about them); `bytesOk` states the range and is proved for every
  encoder in this file.

  * `be k v`            big-endian `k`-byte representation of `v`
  * `Width`             the five head widths (immediate, 1, 2, 4, 8 bytes)
  * `head m w v`        the head of major type `m` with argument `v` at width `w`
  * `shortest v`        the width RFC 8949 §4.2.1 ("preferred serialization") prescribes
  * `Item`              SYNTAX of well-formed encodings (every head width, definite and
                        indefinite containers, chunked strings, tags, simple, floats)
  * `Item.enc`          the bytes of an encoding
  The data-model values an encoding denotes (`Item.asUint` … `Item.asMap`) and the strict parser are in `Spec/CborParse.lean`.
-/
namespace CdnsVerif.Spec.Cbor

abbrev Bytes := List Nat

def bytesOk (bs : Bytes) : Prop := ∀ b ∈ bs, b < 256

/-- big-endian, `k` bytes, most significant first -/
def be : Nat → Nat → Bytes
  | 0, _ => []
  | k+1, v => (v / 256 ^ k % 256) :: be k v

/-- value of a big-endian byte string -/
def beVal : Bytes → Nat
  | [] => 0
  | b :: bs => b * 256 ^ bs.length + beVal bs

inductive Width where
  | imm | w1 | w2 | w4 | w8
  deriving DecidableEq, Repr, Inhabited

namespace Width
def nbytes : Width → Nat
  | imm => 0 | w1 => 1 | w2 => 2 | w4 => 4 | w8 => 8
/-- additional-information value of the head -/
def ai (w : Width) (v : Nat) : Nat :=
  match w with
  | imm => v | w1 => 24 | w2 => 25 | w4 => 26 | w8 => 27
/-- largest argument + 1 -/
def bound : Width → Nat
  | imm => 24 | w1 => 2 ^ 8 | w2 => 2 ^ 16 | w4 => 2 ^ 32 | w8 => 2 ^ 64
def fits (w : Width) (v : Nat) : Prop := v < w.bound
instance (w : Width) (v : Nat) : Decidable (w.fits v) := by unfold fits; infer_instance
def all : List Width := [imm, w1, w2, w4, w8]
end Width

/-- major types -/
def mUint := 0
def mNint := 1
def mBstr := 2
def mTstr := 3
def mArr  := 4
def mMap  := 5
def mTag  := 6
def mSimple := 7

/-- head of major type `m` (0..7), width `w`, argument `v` -/
def head (m : Nat) (w : Width) (v : Nat) : Bytes :=
  (m * 32 + w.ai v) :: be w.nbytes v

/-- RFC 8949 §4.2.1: the shortest head that can carry `v` (for `v < 2^64`) -/
def shortest (v : Nat) : Width :=
  if v < 24 then .imm else if v < 2 ^ 8 then .w1 else if v < 2 ^ 16 then .w2
  else if v < 2 ^ 32 then .w4 else .w8

def preferredHead (m v : Nat) : Bytes := head m (shortest v) v

/-- the indefinite-length head of major type `m` and the break stop code -/
def indefHead (m : Nat) : Bytes := [m * 32 + 31]
def breakByte : Nat := 0xff

theorem bound_eq (w : Width) : w.bound = if w = .imm then 24 else 256 ^ w.nbytes := by cases w <;> decide

theorem ai_le_27 (w : Width) (v : Nat) (h : w.fits v) : w.ai v ≤ 27 := by
  cases w <;> simp [Width.ai, Width.fits, Width.bound] at * <;> omega

theorem ai_lt (w : Width) (v : Nat) (h : w.fits v) : w.ai v < 32 := Nat.lt_of_le_of_lt (ai_le_27 w v h) (by decide)

theorem be_length (k v : Nat) : (be k v).length = k := by
  induction k with
  | zero => rfl
  | succ k ih => simp [be, ih]

theorem be_ok (k v : Nat) : bytesOk (be k v) := by
  induction k with
  | zero => exact List.forall_mem_nil _
  | succ k ih => exact List.forall_mem_cons.2 ⟨Nat.mod_lt _ (by decide), ih⟩

theorem beVal_be (k v : Nat) : beVal (be k v) = v % 256 ^ k := by
  induction k with
  | zero => simp [be, beVal, Nat.mod_one]
  | succ k ih =>
    simp only [be, beVal, be_length, ih]
    rw [Nat.pow_succ, Nat.mod_mul, Nat.add_comm, Nat.mul_comm]

theorem beVal_be_of_lt (k v : Nat) (h : v < 256 ^ k) : beVal (be k v) = v := by
  rw [beVal_be, Nat.mod_eq_of_lt h]

theorem shortest_fits (v : Nat) (h : v < 2 ^ 64) : (shortest v).fits v := by
  unfold shortest
  -- in each branch the claim is the bound just tested, in the last one `h`
  repeat' split
  all_goals assumption

theorem head_cons (m : Nat) (w : Width) (v : Nat) : head m w v = (m * 32 + w.ai v) :: be w.nbytes v := rfl

theorem head_length (m : Nat) (w : Width) (v : Nat) : (head m w v).length = 1 + w.nbytes := by
  simp [head, be_length]; omega

theorem preferred_shortest (m v : Nat) (w : Width) (hw : w.fits v) :
    (preferredHead m v).length ≤ (head m w v).length := by
  simp only [preferredHead, head_length]
  unfold shortest
  cases w <;> simp [Width.fits, Width.bound] at hw <;>
    (repeat' split) <;> simp [Width.nbytes] <;> omega

theorem head_ok (m : Nat) (w : Width) (v : Nat) (hm : m < 8) (hw : w.fits v) :
    bytesOk (head m w v) :=
  List.forall_mem_cons.2 ⟨by have := ai_lt w v hw; omega, be_ok _ _⟩

theorem bytesOk_append {a b : Bytes} (ha : bytesOk a) (hb : bytesOk b) : bytesOk (a ++ b) :=
  List.forall_mem_append.2 ⟨ha, hb⟩

theorem bytesOk_single (b : Nat) (h : b < 256) : bytesOk [b] := List.forall_mem_singleton.2 h


/-! ## Syntax of well-formed encodings (RFC 8949 §3) -/

/-- One definite-length chunk of an indefinite-length string: head width and content. -/
abbrev Chunk := Width × Bytes

/-- Every way RFC 8949 allows a data item to be written.  Maps are kept as the flat list
    key₁, value₁, key₂, value₂, … (well-formed when the length is even). -/
inductive Item where
  | uint (w : Width) (n : Nat)
  | nint (w : Width) (n : Nat)                 -- denotes  -1 - n
  | bstr (w : Width) (bs : Bytes)
  | bstrI (chunks : List Chunk)
  | tstr (w : Width) (bs : Bytes)
  | tstrI (chunks : List Chunk)
  | arr (w : Width) (items : List Item)
  | arrI (items : List Item)
  | map (w : Width) (items : List Item)
  | mapI (items : List Item)
  | tag (w : Width) (n : Nat) (content : Item)
  | simple (n : Nat)                           -- e0+n, n < 24  (false 20, true 21, null 22, undefined 23)
  | simple1 (n : Nat)                          -- f8 nn, 32 ≤ n < 256
  | f16 (bits : Nat)
  | f32 (bits : Nat)
  | f64 (bits : Nat)
  deriving Repr, Inhabited

def encChunk (m : Nat) (c : Chunk) : Bytes := head m c.1 c.2.length ++ c.2
def encChunks (m : Nat) : List Chunk → Bytes
  | [] => []
  | c :: cs => encChunk m c ++ encChunks m cs

mutual
/-- the bytes of an encoding -/
def Item.enc : Item → Bytes
  | .uint w n => head mUint w n
  | .nint w n => head mNint w n
  | .bstr w bs => head mBstr w bs.length ++ bs
  | .bstrI cs => indefHead mBstr ++ encChunks mBstr cs ++ [breakByte]
  | .tstr w bs => head mTstr w bs.length ++ bs
  | .tstrI cs => indefHead mTstr ++ encChunks mTstr cs ++ [breakByte]
  | .arr w items => head mArr w items.length ++ Item.encList items
  | .arrI items => indefHead mArr ++ Item.encList items ++ [breakByte]
  | .map w items => head mMap w (items.length / 2) ++ Item.encList items
  | .mapI items => indefHead mMap ++ Item.encList items ++ [breakByte]
  | .tag w n c => head mTag w n ++ c.enc
  | .simple n => [mSimple * 32 + n]
  | .simple1 n => [mSimple * 32 + 24, n]
  | .f16 b => (mSimple * 32 + 25) :: be 2 b
  | .f32 b => (mSimple * 32 + 26) :: be 4 b
  | .f64 b => (mSimple * 32 + 27) :: be 8 b
def Item.encList : List Item → Bytes
  | [] => []
  | i :: is => i.enc ++ Item.encList is
end

def chunkWF (c : Chunk) : Prop := c.1.fits c.2.length ∧ bytesOk c.2
def chunksWF : List Chunk → Prop
  | [] => True
  | c :: cs => chunkWF c ∧ chunksWF cs

mutual
/-- well-formedness: arguments fit their head width, counts fit 64 bits, maps have key/value
    pairs, two-byte simple values are ≥ 32, payload bytes are bytes -/
def Item.WF : Item → Prop
  | .uint w n => w.fits n
  | .nint w n => w.fits n
  | .bstr w bs => w.fits bs.length ∧ bytesOk bs
  | .bstrI cs => chunksWF cs
  | .tstr w bs => w.fits bs.length ∧ bytesOk bs
  | .tstrI cs => chunksWF cs
  | .arr w items => w.fits items.length ∧ Item.WFList items
  | .arrI items => Item.WFList items
  | .map w items => w.fits (items.length / 2) ∧ items.length % 2 = 0 ∧ Item.WFList items
  | .mapI items => items.length % 2 = 0 ∧ Item.WFList items
  | .tag w n c => w.fits n ∧ c.WF
  | .simple n => n < 24
  | .simple1 n => 32 ≤ n ∧ n < 256
  | .f16 b => b < 2 ^ 16
  | .f32 b => b < 2 ^ 32
  | .f64 b => b < 2 ^ 64
def Item.WFList : List Item → Prop
  | [] => True
  | i :: is => i.WF ∧ Item.WFList is
end

/-- content of a chunked string = concatenation of the chunks -/
def chunksVal : List Chunk → Bytes
  | [] => []
  | c :: cs => c.2 ++ chunksVal cs

theorem encChunks_ok (m : Nat) (hm : m < 8) (cs : List Chunk) (h : chunksWF cs) : bytesOk (encChunks m cs) := by
  induction cs with
  | nil => exact List.forall_mem_nil _
  | cons c cs ih =>
    exact bytesOk_append (bytesOk_append (head_ok m c.1 c.2.length hm h.1.1) h.1.2) (ih h.2)

theorem encChunks_length (m : Nat) (cs : List Chunk) : cs.length ≤ (encChunks m cs).length := by
  induction cs with
  | nil => simp [encChunks]
  | cons c cs ih => simp [encChunks, encChunk, head_length]; omega

/-- Simple values and floats are heads of major type 7.  For `simple`, `f16`, `f32`, `f64` (widths `imm`, `w2`, `w4`, `w8`) that is
    `rfl`, and so is `WF = fits`; a two-byte simple value needs its range. -/
theorem enc_simple1 (n : Nat) (h : n < 256) : (Item.simple1 n).enc = head mSimple .w1 n := by
  simp [Item.enc, head, Width.ai, Width.nbytes, be, Nat.mod_eq_of_lt h]

mutual
theorem enc_ok (i : Item) (hwf : i.WF) : bytesOk i.enc := by
  have indef : ∀ m (p : Bytes), m < 7 → bytesOk p → bytesOk (indefHead m ++ p ++ [breakByte]) := fun m p hm hp =>
    bytesOk_append (bytesOk_append (bytesOk_single _ (by omega)) hp) (bytesOk_single _ (by decide))
  match i, hwf with
  | .uint w n, h => exact head_ok mUint w n (by decide) h
  | .nint w n, h => exact head_ok mNint w n (by decide) h
  | .simple n, h => exact head_ok mSimple .imm n (by decide) h
  | .simple1 n, h => exact enc_simple1 n h.2 ▸ head_ok mSimple .w1 n (by decide) h.2
  | .f16 b, h => exact head_ok mSimple .w2 b (by decide) h
  | .f32 b, h => exact head_ok mSimple .w4 b (by decide) h
  | .f64 b, h => exact head_ok mSimple .w8 b (by decide) h
  | .bstr w bs, h => exact bytesOk_append (head_ok mBstr w _ (by decide) h.1) h.2
  | .tstr w bs, h => exact bytesOk_append (head_ok mTstr w _ (by decide) h.1) h.2
  | .bstrI cs, h => exact indef mBstr _ (by decide) (encChunks_ok mBstr (by decide) cs h)
  | .tstrI cs, h => exact indef mTstr _ (by decide) (encChunks_ok mTstr (by decide) cs h)
  | .arr w items, h => exact bytesOk_append (head_ok mArr w _ (by decide) h.1) (encList_ok items h.2)
  | .map w items, h => exact bytesOk_append (head_ok mMap w _ (by decide) h.1) (encList_ok items h.2.2)
  | .arrI items, h => exact indef mArr _ (by decide) (encList_ok items h)
  | .mapI items, h => exact indef mMap _ (by decide) (encList_ok items h.2)
  | .tag w n c, h => exact bytesOk_append (head_ok mTag w n (by decide) h.1) (enc_ok c h.2)
theorem encList_ok (items : List Item) (hwf : Item.WFList items) : bytesOk (Item.encList items) := by
  match items, hwf with
  | [], _ => exact List.forall_mem_nil _
  | i :: is, h => exact bytesOk_append (enc_ok i h.1) (encList_ok is h.2)
end

theorem enc_first (i : Item) (h : i.WF) : ∃ b tl, i.enc = b :: tl ∧ b ≠ 255 := by
  -- never the stop code: a definite head starts with `m·32 + ai`, `ai ≤ 27`, which is 255 for no `m`; an indefinite one with `m·32 + 31`, `m ≤ 5`
  have hd : ∀ m (w : Width) n, w.fits n → m * 32 + w.ai n ≠ 255 := fun m w n hw => by
    have := ai_le_27 w n hw; omega
  cases i with
  | uint w n | nint w n => exact ⟨_, _, rfl, hd _ w n h⟩
  | bstr w _ | tstr w _ | arr w _ | map w _ | tag w _ _ => exact ⟨_, _, rfl, hd _ w _ h.1⟩
  | simple n => exact ⟨_, _, rfl, hd mSimple .imm n h⟩
  | simple1 _ | f16 _ | f32 _ | f64 _ | bstrI _ | tstrI _ | arrI _ | mapI _ => exact ⟨_, _, rfl, by decide⟩

end CdnsVerif.Spec.Cbor
