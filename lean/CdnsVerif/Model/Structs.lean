/-
  The concrete schemas of the file preamble tree (src/file_preamble.{h,cpp}) as data for the
  generic interpreter `Model.Schema`.  Keys come from the translator's output (Generated),
  member widths/kinds and "required by the reader" flags are transcribed from the C++ and
  checked against `Generated.memberTable` in Proofs/StructsSource.lean.
-/
import CdnsVerif.Model.Schema
import CdnsVerif.Generated.Constants
import CdnsVerif.Generated.Schemas
namespace CdnsVerif.Model.Structs
open CdnsVerif.Model.Schema CdnsVerif.Generated

def storageHints : Kind := .struct [
  .mk StorageHintsMapIndex.query_response_hints (.uint 32) true,
  .mk StorageHintsMapIndex.query_response_signature_hints (.uint 32) true,
  .mk StorageHintsMapIndex.rr_hints (.uint 8) true,
  .mk StorageHintsMapIndex.other_data_hints (.uint 8) true]

def storageParameters : Kind := .struct [
  .mk StorageParametersMapIndex.ticks_per_second (.uint 64) true,
  .mk StorageParametersMapIndex.max_block_items (.uint 64) true,
  .mk StorageParametersMapIndex.storage_hints storageHints true,
  .mk StorageParametersMapIndex.opcodes (.arr (.uint 8)) true,
  .mk StorageParametersMapIndex.rr_types (.arr (.uint 16)) true,
  .mk StorageParametersMapIndex.storage_flags (.uint 8) false,
  .mk StorageParametersMapIndex.client_address_prefix_ipv4 (.uint 8) false,
  .mk StorageParametersMapIndex.client_address_prefix_ipv6 (.uint 8) false,
  .mk StorageParametersMapIndex.server_address_prefix_ipv4 (.uint 8) false,
  .mk StorageParametersMapIndex.server_address_prefix_ipv6 (.uint 8) false,
  .mk StorageParametersMapIndex.sampling_method .tstr false,
  .mk StorageParametersMapIndex.anonymization_method .tstr false]

def collectionParameters : Kind := .struct [
  .mk CollectionParametersMapIndex.query_timeout (.uint 64) false,
  .mk CollectionParametersMapIndex.skew_timeout (.uint 64) false,
  .mk CollectionParametersMapIndex.snaplen (.uint 64) false,
  .mk CollectionParametersMapIndex.promisc .bool false,
  .mk CollectionParametersMapIndex.interfaces (.arr .tstr) false,
  .mk CollectionParametersMapIndex.server_address (.arr .bstr) false,
  .mk CollectionParametersMapIndex.vlan_ids (.arr (.uint 16)) false,
  .mk CollectionParametersMapIndex.filter .tstr false,
  .mk CollectionParametersMapIndex.generator_id .tstr false,
  .mk CollectionParametersMapIndex.host_id .tstr false]

def blockParameters : Kind := .struct [
  .mk BlockParametersMapIndex.storage_parameters storageParameters true,
  .mk BlockParametersMapIndex.collection_parameters collectionParameters false]

def filePreamble : Kind := .struct [
  .mk FilePreambleMapIndex.major_format_version (.uint 8) true,
  .mk FilePreambleMapIndex.minor_format_version (.uint 8) true,
  .mk FilePreambleMapIndex.private_version (.uint 8) false,
  .mk FilePreambleMapIndex.block_parameters (.arr blockParameters) true]

/-! ### the block tree (src/block.{h,cpp}) -/

def timestamp : Kind := .arr (.uint 64)      -- [secs, ticks]; the 2-element check of `Timestamp::read` is outside the schema

def blockPreamble : Kind := .struct [
  .mk BlockPreambleMapIndex.earliest_time timestamp false,
  .mk BlockPreambleMapIndex.block_parameters_index (.uint 32) false]

def blockStatistics : Kind := .struct [
  .mk BlockStatisticsMapIndex.processed_messages (.uint 32) false,
  .mk BlockStatisticsMapIndex.qr_data_items (.uint 32) false,
  .mk BlockStatisticsMapIndex.unmatched_queries (.uint 32) false,
  .mk BlockStatisticsMapIndex.unmatched_responses (.uint 32) false,
  .mk BlockStatisticsMapIndex.discarded_opcode (.uint 32) false,
  .mk BlockStatisticsMapIndex.malformed_items (.uint 32) false]

def classType : Kind := .struct [
  .mk ClassTypeMapIndex.type (.uint 16) true,
  .mk ClassTypeMapIndex.class_ (.uint 16) true]

def queryResponseSignature : Kind := .struct [
  .mk QueryResponseSignatureMapIndex.server_address_index (.uint 32) false,
  .mk QueryResponseSignatureMapIndex.server_port (.uint 16) false,
  .mk QueryResponseSignatureMapIndex.qr_transport_flags (.uint 8) false,
  .mk QueryResponseSignatureMapIndex.qr_type (.uint 8) false,
  .mk QueryResponseSignatureMapIndex.qr_sig_flags (.uint 8) false,
  .mk QueryResponseSignatureMapIndex.query_opcode (.uint 8) false,
  .mk QueryResponseSignatureMapIndex.qr_dns_flags (.uint 16) false,
  .mk QueryResponseSignatureMapIndex.query_rcode (.uint 16) false,
  .mk QueryResponseSignatureMapIndex.query_classtype_index (.uint 32) false,
  .mk QueryResponseSignatureMapIndex.query_qdcount (.uint 16) false,
  .mk QueryResponseSignatureMapIndex.query_ancount (.uint 32) false,
  .mk QueryResponseSignatureMapIndex.query_nscount (.uint 16) false,
  .mk QueryResponseSignatureMapIndex.query_arcount (.uint 16) false,
  .mk QueryResponseSignatureMapIndex.query_edns_version (.uint 8) false,
  .mk QueryResponseSignatureMapIndex.query_udp_size (.uint 16) false,
  .mk QueryResponseSignatureMapIndex.query_opt_rdata_index (.uint 32) false,
  .mk QueryResponseSignatureMapIndex.response_rcode (.uint 16) false]

def question : Kind := .struct [
  .mk QuestionMapIndex.name_index (.uint 32) true,
  .mk QuestionMapIndex.classtype_index (.uint 32) true]

def rr : Kind := .struct [
  .mk RrMapIndex.name_index (.uint 32) true,
  .mk RrMapIndex.classtype_index (.uint 32) true,
  .mk RrMapIndex.ttl (.uint 32) false,
  .mk RrMapIndex.rdata_index (.uint 32) false]

def malformedMessageData : Kind := .struct [
  .mk MalformedMessageDataMapIndex.server_address_index (.uint 32) false,
  .mk MalformedMessageDataMapIndex.server_port (.uint 16) false,
  .mk MalformedMessageDataMapIndex.mm_transport_flags (.uint 8) false,
  .mk MalformedMessageDataMapIndex.mm_payload .bstr false]

def blockTables : Kind := .struct [
  .mk BlockTablesMapIndex.ip_address (.arr .bstr) false,
  .mk BlockTablesMapIndex.classtype (.arr classType) false,
  .mk BlockTablesMapIndex.name_rdata (.arr .bstr) false,
  .mk BlockTablesMapIndex.qr_sig (.arr queryResponseSignature) false,
  .mk BlockTablesMapIndex.qlist (.arr (.arr (.uint 32))) false,
  .mk BlockTablesMapIndex.qrr (.arr question) false,
  .mk BlockTablesMapIndex.rrlist (.arr (.arr (.uint 32))) false,
  .mk BlockTablesMapIndex.rr (.arr rr) false,
  .mk BlockTablesMapIndex.malformed_message_data (.arr malformedMessageData) false]

def responseProcessingData : Kind := .struct [
  .mk ResponseProcessingDataMapIndex.bailiwick_index (.uint 32) false,
  .mk ResponseProcessingDataMapIndex.processing_flags (.uint 8) false]

def queryResponseExtended : Kind := .struct [
  .mk QueryResponseExtendedMapIndex.question_index (.uint 32) false,
  .mk QueryResponseExtendedMapIndex.answer_index (.uint 32) false,
  .mk QueryResponseExtendedMapIndex.authority_index (.uint 32) false,
  .mk QueryResponseExtendedMapIndex.additional_index (.uint 32) false]

/-- members in the order `QueryResponse::write` emits them (the private negative keys last) -/
def queryResponse : Kind := .struct [
  .mk QueryResponseMapIndex.time_offset (.uint 64) false,
  .mk QueryResponseMapIndex.client_address_index (.uint 32) false,
  .mk QueryResponseMapIndex.client_port (.uint 16) false,
  .mk QueryResponseMapIndex.transaction_id (.uint 16) false,
  .mk QueryResponseMapIndex.qr_signature_index (.uint 32) false,
  .mk QueryResponseMapIndex.client_hoplimit (.uint 8) false,
  .mk QueryResponseMapIndex.response_delay .int64 false,
  .mk QueryResponseMapIndex.query_name_index (.uint 32) false,
  .mk QueryResponseMapIndex.query_size (.uint 64) false,
  .mk QueryResponseMapIndex.response_size (.uint 64) false,
  .mk QueryResponseMapIndex.response_processing_data responseProcessingData false,
  .mk QueryResponseMapIndex.query_extended queryResponseExtended false,
  .mk QueryResponseMapIndex.response_extended queryResponseExtended false,
  .mk QueryResponseMapIndex.asn .tstr false,
  .mk QueryResponseMapIndex.country_code .tstr false,
  .mk QueryResponseMapIndex.round_trip_time .int64 false]

def addressEventCount : Kind := .struct [
  .mk AddressEventCountMapIndex.ae_type (.uint 8) true,
  .mk AddressEventCountMapIndex.ae_code (.uint 8) false,
  .mk AddressEventCountMapIndex.ae_address_index (.uint 32) true,
  .mk AddressEventCountMapIndex.ae_transport_flags (.uint 8) false,
  .mk AddressEventCountMapIndex.ae_count (.uint 64) true]

def malformedMessage : Kind := .struct [
  .mk MalformedMessageMapIndex.time_offset (.uint 64) false,
  .mk MalformedMessageMapIndex.client_address_index (.uint 32) false,
  .mk MalformedMessageMapIndex.client_port (.uint 16) false,
  .mk MalformedMessageMapIndex.message_data_index (.uint 32) false]

def block : Kind := .struct [
  .mk BlockMapIndex.block_preamble blockPreamble true,
  .mk BlockMapIndex.block_statistics blockStatistics false,
  .mk BlockMapIndex.block_tables blockTables false,
  .mk BlockMapIndex.query_responses (.arr queryResponse) false,
  .mk BlockMapIndex.address_event_counts (.arr addressEventCount) false,
  .mk BlockMapIndex.malformed_messages (.arr malformedMessage) false]

/-! ### the schemas against what the translator extracted by running the library's own writers and readers (T3)

  `Generated.schemaTable` is regenerated on every run from the working tree: per struct, in the order the writer emits them,
  the key each member is written under, the kind and width of the item written, the width the reader keeps, and whether the
  reader insists on the member.  `Props.C09.preamble_schemas_match_source` / `Props.C01.block_schemas_match_source` state
  that the hand-written schemas above ARE that table. -/

def sigOf : Kind → KindSig
  | .uint b => .u b
  | .int64 => .i64
  | .tstr => .tstr
  | .bstr => .bstr
  | .bool => .bool
  | .arr k => .arr (sigOf k)
  | .struct _ => .struct

/-- what a schema says about a struct: (key, kind, required by the reader) in declaration (= writing) order -/
def rowsOf : Kind → List (Int × KindSig × Bool)
  | .struct fs => fs.map fun f => (f.key, sigOf f.kind, f.required)
  | _ => []

/-- what the source says.  A time offset is an `int64_t` difference written unsigned: the largest one the probe can make the
    library write is 2^63-1 (`.u 63`); the schema lists the member with the width of the unsigned write overload. -/
def sourceRows (name : String) : Option (List (Int × KindSig × Bool)) :=
  (schemaTable.find? (·.1 == name)).map fun e => e.2.map fun r => (r.1, (if r.2.1 = .u 63 then .u 64 else r.2.1), r.2.2.2)

/-- the reader keeps of a foreign 2^64-1 exactly the width the writer uses (the `(uintN_t) read_unsigned()` narrowing) -/
def readerWidthsAgree (name : String) : Bool :=
  match schemaTable.find? (·.1 == name) with
  | some e => e.2.all fun r => match r.2.2.1 with | some s => s == r.2.1 | none => true
  | none => false

/-- generated kind against the schema's: `.u 0` stands for an unsigned item whose width the probe could not force (the elements of
    the index lists of a block built through the record interface are small table indices) -/
def sigCompat : KindSig → KindSig → Bool
  | .u 0, .u _ => true
  | .arr a, .arr b => sigCompat a b
  | a, b => a == b

def rowsCompat (gen model : List (Int × KindSig × Bool)) : Bool :=
  gen.length == model.length && (gen.zip model).all fun p => p.1.1 == p.2.1 && sigCompat p.1.2.1 p.2.2.1 && p.1.2.2 == p.2.2.2

end CdnsVerif.Model.Structs
