/-
  Decoder programs.  Every read-side function of the library touches its input only through
  `CdnsDecoder::read_to_buffer()` followed by `m_p[0]` (peek) or `m_p[0]; m_p++` (next).
  A decoder operation is therefore a tree whose nodes are `next`, `peek`, `throw`, `pure`:
  the free monad over those primitives.  One model, two interpretations:

  * `run`  over the plain remaining input (`Bytes`)  – used by the item-level theorems;
  * `Window.runW` over the real state (65535-byte window + `std::istream`) – `Props.C05`
    proves the two agree for EVERY program, so every item-level theorem holds wherever the
    item lies relative to the window boundary.
-/
import CdnsVerif.Spec.Cbor
namespace CdnsVerif.Model
open CdnsVerif.Spec.Cbor

inductive Err where
  | end_      -- CdnsDecoderEnd
  | decoder   -- CdnsDecoderException
  | other     -- any other std::exception (std::runtime_error from table lookups, timestamps)
  deriving DecidableEq, Repr, Inhabited

inductive Prog (α : Type) : Type where
  | pure : α → Prog α
  | throw : Err → Prog α
  | next : (Nat → Prog α) → Prog α
  | peek : (Nat → Prog α) → Prog α

namespace Prog

def bind : Prog α → (α → Prog β) → Prog β
  | .pure a, f => f a
  | .throw e, _ => .throw e
  | .next k, f => .next fun b => bind (k b) f
  | .peek k, f => .peek fun b => bind (k b) f

instance : Monad Prog where
  pure := Prog.pure
  bind := Prog.bind

/-- interpretation over the remaining input -/
def run : Prog α → Bytes → Except Err (α × Bytes)
  | .pure a, bs => .ok (a, bs)
  | .throw e, _ => .error e
  | .next _, [] => .error .end_
  | .next k, b :: bs => run (k b) bs
  | .peek _, [] => .error .end_
  | .peek k, b :: bs => run (k b) (b :: bs)

@[simp] theorem run_pure (a : α) (bs : Bytes) : run (Pure.pure a : Prog α) bs = .ok (a, bs) := rfl
@[simp] theorem run_pure' (a : α) (bs : Bytes) : run (Prog.pure a) bs = .ok (a, bs) := rfl
@[simp] theorem run_throw (e : Err) (bs : Bytes) : run (Prog.throw e : Prog α) bs = .error e := rfl
@[simp] theorem run_next_nil (k : Nat → Prog α) : run (.next k) [] = .error .end_ := rfl
@[simp] theorem run_next_cons (k : Nat → Prog α) (b : Nat) (bs : Bytes) : run (.next k) (b :: bs) = run (k b) bs := rfl
@[simp] theorem run_peek_nil (k : Nat → Prog α) : run (.peek k) [] = .error .end_ := rfl
@[simp] theorem run_peek_cons (k : Nat → Prog α) (b : Nat) (bs : Bytes) : run (.peek k) (b :: bs) = run (k b) (b :: bs) := rfl

theorem run_bind (p : Prog α) (f : α → Prog β) (bs : Bytes) :
    run (p >>= f) bs = match run p bs with
      | .ok (a, r) => run (f a) r
      | .error e => .error e := by
  show run (Prog.bind p f) bs = _
  induction p generalizing bs with
  | pure a => rfl
  | throw e => rfl
  | next k ih =>
    cases bs with
    | nil => rfl
    | cons b bs => simp only [Prog.bind, run_next_cons]; exact ih b bs
  | peek k ih =>
    cases bs with
    | nil => rfl
    | cons b bs => simp only [Prog.bind, run_peek_cons]; exact ih b (b :: bs)

theorem run_bind_ok {p : Prog α} {f : α → Prog β} {bs r : Bytes} {a : α} (h : run p bs = .ok (a, r)) :
    run (p >>= f) bs = run (f a) r := by rw [run_bind, h]

theorem run_bind_err (p : Prog α) (f : α → Prog β) (bs : Bytes) (e : Err) (h : run p bs = .error e) :
    run (p >>= f) bs = .error e := by rw [run_bind, h]

end Prog
end CdnsVerif.Model
