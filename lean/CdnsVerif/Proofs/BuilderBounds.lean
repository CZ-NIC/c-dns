/-
  Every block built from records whose members fit the C++ member widths (`RecOk`) satisfies `BlkOk` (Proofs/BuilderConforms.lean),
  hence lies in the round-trip domain: `build_conforms`.  The bounds on the value members are an invariant of `build` (`VOk`,
  `vok_build`; its table part `TV` is an `AllT TVP`, so `Kept` carries it through the table steps).  The index members are bounded
  afterwards (`blkOk_of`), through referential closure (`Closed`, Proofs/BuilderReach.lean) and the 2^32 limit of `index_t` on the
  table sizes.
-/
import CdnsVerif.Proofs.BuilderConforms
import CdnsVerif.Proofs.BuilderReach

namespace CdnsVerif.Model.Builder
open CdnsVerif.Generated CdnsVerif.Model.Schema CdnsVerif.Model.Timestamp

structure GrrOk (g : GRR) : Prop where
  name : StrOk g.name
  type : g.type < 2 ^ 16
  cls : g.cls < 2 ^ 16
  ttl : ULt 32 g.ttl
  rdata : OStrOk g.rdata

def SecOk (o : Option (List GRR)) : Prop := ∀ l, o = some l → l.length < 2 ^ 64 ∧ ∀ r ∈ l, GrrOk r
def TsOk (o : Option Ts) : Prop := ∀ t, o = some t → t.secs < 2 ^ 64 ∧ t.ticks < 2 ^ 64

structure GqrOk (g : GQR) : Prop where
  ts : TsOk g.ts
  clientIp : OStrOk g.clientIp
  clientPort : ULt 16 g.clientPort
  transactionId : ULt 16 g.transactionId
  serverIp : OStrOk g.serverIp
  serverPort : ULt 16 g.serverPort
  transportFlags : ULt 8 g.transportFlags
  qrType : ULt 8 g.qrType
  sigFlags : ULt 8 g.sigFlags
  opcode : ULt 8 g.opcode
  dnsFlags : ULt 16 g.dnsFlags
  queryRcode : ULt 16 g.queryRcode
  classtype : ∀ p, g.classtype = some p → p.1 < 2 ^ 16 ∧ p.2 < 2 ^ 16
  qdcount : ULt 16 g.qdcount
  ancount : ULt 16 g.ancount          -- `GenericQueryResponse::query_ancount` is a `uint16_t` (the table entry's is 32 bits wide)
  nscount : ULt 16 g.nscount
  arcount : ULt 16 g.arcount
  ednsVersion : ULt 8 g.ednsVersion
  udpSize : ULt 16 g.udpSize
  optRdata : OStrOk g.optRdata
  responseRcode : ULt 16 g.responseRcode
  hoplimit : ULt 8 g.hoplimit
  responseDelay : I64 g.responseDelay
  queryName : OStrOk g.queryName
  querySize : ULt 64 g.querySize
  responseSize : ULt 64 g.responseSize
  bailiwick : OStrOk g.bailiwick
  processingFlags : ULt 8 g.processingFlags
  queryQuestions : SecOk g.queryQuestions
  queryAnswers : SecOk g.queryAnswers
  queryAuthority : SecOk g.queryAuthority
  queryAdditional : SecOk g.queryAdditional
  responseQuestions : SecOk g.responseQuestions
  responseAnswers : SecOk g.responseAnswers
  responseAuthority : SecOk g.responseAuthority
  responseAdditional : SecOk g.responseAdditional
  asn : OStrOk g.asn
  countryCode : OStrOk g.countryCode
  roundTripTime : I64 g.roundTripTime

structure GaecOk (g : GAEC) : Prop where
  aeType : g.aeType < 2 ^ 8
  aeCode : ULt 8 g.aeCode
  tf : ULt 8 g.transportFlags
  ip : StrOk g.ip

structure GmmOk (g : GMM) : Prop where
  ts : TsOk g.ts
  clientIp : OStrOk g.clientIp
  clientPort : ULt 16 g.clientPort
  serverIp : OStrOk g.serverIp
  serverPort : ULt 16 g.serverPort
  tf : ULt 8 g.transportFlags
  payload : OStrOk g.payload

def OStatsOk (o : Option Stats) : Prop := ∀ s, o = some s → StatsOk s

/-- a record the API can express: each member fits its C++ type in the `Generic…` structs of src/interface.h, the statistics theirs -/
def RecOk : Rec → Prop
  | .qr g st => GqrOk g ∧ OStatsOk st
  | .aec g st => GaecOk g ∧ OStatsOk st
  | .mm g st => GmmOk g ∧ OStatsOk st

/-- `SigV`, `MmdV`, `QV`, `AecV` (and `TV`, `VOk`, which ask them of every entry) bound the members that are values; the members
    that are indexes are bounded afterwards, from `Closed` (`blkOk_of`) -/
structure SigV (s : Sig) : Prop where
  port : ULt 16 s.port
  tf : ULt 8 s.tf
  qt : ULt 8 s.qt
  sf : ULt 8 s.sf
  op : ULt 8 s.op
  df : ULt 16 s.df
  qrc : ULt 16 s.qrc
  qd : ULt 16 s.qd
  an : ULt 32 s.an
  ns : ULt 16 s.ns
  ar : ULt 16 s.ar
  ev : ULt 8 s.ev
  us : ULt 16 s.us
  rrc : ULt 16 s.rrc

structure MmdV (d : MMD) : Prop where
  port : ULt 16 d.port
  tf : ULt 8 d.tf
  payload : OStrOk d.payload

structure QV (q : QRec) : Prop where
  cport : ULt 16 q.cport
  tid : ULt 16 q.tid
  hl : ULt 8 q.hl
  rd : I64 q.rd
  qs : ULt 64 q.qs
  rs : ULt 64 q.rs
  rpd : ∀ r, q.rpd = some r → ULt 8 r.flags
  asn : OStrOk q.asn
  cc : OStrOk q.cc
  rtt : I64 q.rtt

structure AecV (a : AEC) : Prop where
  aeType : a.aeType < 2 ^ 8
  aeCode : ULt 8 a.aeCode
  tf : ULt 8 a.tf

/-- the value bounds of a block; `N` bounds the number of records buffered so far, hence the three record lists and every
    address-event count (a record raises one count by one): under `N < 2^64` they fit their members -/
structure VOk (N : Nat) (b : Blk) : Prop where
  ip : ∀ x ∈ b.ip, StrOk x
  ct : ∀ p ∈ b.ct, p.1 < 2 ^ 16 ∧ p.2 < 2 ^ 16
  nr : ∀ x ∈ b.nr, StrOk x
  sig : ∀ x ∈ b.sig, SigV x
  qlist : ∀ l ∈ b.qlist, l.length < 2 ^ 64
  rrlist : ∀ l ∈ b.rrlist, l.length < 2 ^ 64
  rr : ∀ x ∈ b.rr, ULt 32 x.ttl
  mmd : ∀ x ∈ b.mmd, MmdV x
  qrs : ∀ x ∈ b.qrs, QV x
  aecs : ∀ x ∈ b.aecs, AecV x.1 ∧ x.2 ≤ N
  mms : ∀ x ∈ b.mms, ULt 16 x.cport
  lenQ : b.qrs.length ≤ N
  lenA : b.aecs.length ≤ N
  lenM : b.mms.length ≤ N
  earliest : b.earliest.secs < 2 ^ 64 ∧ b.earliest.ticks < 2 ^ 64
  stats : ∀ x, b.stats = some x → StatsOk x

theorem VOk.mono {N : Nat} {b : Blk} (h : VOk N b) : VOk (N + 1) b :=
  { h with aecs := fun x hx => ⟨(h.aecs x hx).1, Nat.le_succ_of_le (h.aecs x hx).2⟩, lenQ := Nat.le_succ_of_le h.lenQ,
           lenA := Nat.le_succ_of_le h.lenA, lenM := Nat.le_succ_of_le h.lenM }

/-- the tables part: what the table-adding steps must preserve (records, earliest time and statistics are untouched by them) -/
structure TV (b : Blk) : Prop where
  ip : ∀ x ∈ b.ip, StrOk x
  ct : ∀ p ∈ b.ct, p.1 < 2 ^ 16 ∧ p.2 < 2 ^ 16
  nr : ∀ x ∈ b.nr, StrOk x
  sig : ∀ x ∈ b.sig, SigV x
  qlist : ∀ l ∈ b.qlist, l.length < 2 ^ 64
  rrlist : ∀ l ∈ b.rrlist, l.length < 2 ^ 64
  rr : ∀ x ∈ b.rr, ULt 32 x.ttl
  mmd : ∀ x ∈ b.mmd, MmdV x

def TVP : (t : Tid) → Elt t → Prop
  | .ip, x => StrOk x | .ct, p => p.1 < 2 ^ 16 ∧ p.2 < 2 ^ 16 | .nr, x => StrOk x | .sig, x => SigV x | .ql, l => l.length < 2 ^ 64
  | .qrr, _ => True | .rl, l => l.length < 2 ^ 64 | .rr, x => ULt 32 x.ttl | .mmd, x => MmdV x

theorem TV.allT {b : Blk} (h : TV b) : AllT TVP b
  | .ip => h.ip | .ct => h.ct | .nr => h.nr | .sig => h.sig | .ql => h.qlist | .qrr => fun _ _ => trivial | .rl => h.rrlist
  | .rr => h.rr | .mmd => h.mmd

theorem AllT.tv {b : Blk} (h : AllT TVP b) : TV b := ⟨h .ip, h .ct, h .nr, h .sig, h .ql, h .rl, h .rr, h .mmd⟩

theorem VOk.tv {N : Nat} {b : Blk} (h : VOk N b) : TV b := ⟨h.ip, h.ct, h.nr, h.sig, h.qlist, h.rrlist, h.rr, h.mmd⟩

theorem tv_addMmd {b : Blk} (h : TV b) (x : MMD) (hx : MmdV x) : TV (addMmd b x).1 := (h.allT.ins (t := .mmd) hx).tv

theorem sigV_mkSig (hh : Hints) (g : GQR) (hg : GqrOk g) (a c o : Option Nat) : SigV (mkSig hh g a c o) := by
  unfold mkSig
  exact ⟨keep_forall hg.serverPort, keep_forall hg.transportFlags, keep_forall hg.qrType, keep_forall hg.sigFlags, keep_forall hg.opcode,
    keep_forall hg.dnsFlags, keep_forall hg.queryRcode, keep_forall hg.qdcount,
    keep_forall (fun n hn => Nat.lt_of_lt_of_le (hg.ancount n hn) (by decide)), keep_forall hg.nscount, keep_forall hg.arcount,
    keep_forall hg.ednsVersion, keep_forall hg.udpSize, keep_forall hg.responseRcode⟩

theorem GrrOk.ins (hh : Hints) {g : GRR} (hg : GrrOk g) : GrrIns TVP hh g :=
  ⟨hg.name, ⟨hg.type, hg.cls⟩, hg.rdata, fun _ => trivial, fun _ _ _ _ => keep_forall hg.ttl⟩

theorem SecOk.ins (hh : Hints) {o : Option (List GRR)} (ho : SecOk o) : SecIns TVP hh o :=
  ⟨fun l hl g hg => ((ho l hl).2 g hg).ins hh, fun l hl idx hi => show idx.length < 2 ^ 64 from hi ▸ (ho l hl).1,
   fun l hl idx hi => show idx.length < 2 ^ 64 from hi ▸ (ho l hl).1⟩

theorem GqrOk.ins (hh : Hints) {g : GQR} (hg : GqrOk g) : QIns TVP hh g :=
  ⟨hg.clientIp, hg.serverIp, hg.classtype, hg.optRdata, hg.queryName, hg.bailiwick, fun a c o _ _ _ => sigV_mkSig hh g hg a c o,
   hg.queryQuestions.ins hh, hg.queryAnswers.ins hh, hg.queryAuthority.ins hh, hg.queryAdditional.ins hh, hg.responseQuestions.ins hh,
   hg.responseAnswers.ins hh, hg.responseAuthority.ins hh, hg.responseAdditional.ins hh⟩

theorem qv_buildQ (hh : Hints) (g : GQR) (hg : GqrOk g) (b : Blk) : QV (buildQ hh g b).2 := by
  unfold buildQ
  simp only
  refine ⟨keep_forall hg.clientPort, keep_forall hg.transactionId, keep_forall hg.hoplimit, keep_forall hg.responseDelay, keep_forall hg.querySize,
    keep_forall hg.responseSize, ?_, hg.asn, hg.countryCode, hg.roundTripTime⟩
  intro r hr
  obtain ⟨_, rfl⟩ := Option.ite_some_none_eq_some.1 hr
  exact keep_forall hg.processingFlags

theorem VOk.kept (N : Nat) : Kept (VOk N) TVP := fun t x b hx h =>
  have hg := grows_add t b x
  have ht := (h.tv.allT.ins hx).tv
  ⟨ht.ip, ht.ct, ht.nr, ht.sig, ht.qlist, ht.rrlist, ht.rr, ht.mmd, hg.qrs ▸ h.qrs, hg.aecs ▸ h.aecs, hg.mms ▸ h.mms,
   hg.qrs ▸ h.lenQ, hg.aecs ▸ h.lenA, hg.mms ▸ h.lenM, hg.earliest ▸ h.earliest, hg.stats ▸ h.stats⟩

theorem vok_setStats {N : Nat} {b : Blk} (h : VOk N b) (st : Option Stats) (hst : OStatsOk st) : VOk N (setStats b st) := by
  cases st with
  | none => exact h
  | some s => exact { h with stats := fun x hx => by cases hx; exact hst s rfl }

theorem vok_updEarliest {N : Nat} {b : Blk} (h : VOk N b) {ts : Option Ts} (hts : TsOk ts) : VOk N { b with earliest := updEarliest b ts } :=
  { h with earliest := (updEarliest_cases b ts).elim (fun e => e ▸ h.earliest) (hts _) }

theorem vok_addRec (hh : Hints) {N : Nat} {b : Blk} (h : VOk N b) (r : Rec) (hr : RecOk r) : VOk (N + 1) (addRec hh b r) := by
  cases r with
  | qr g st =>
    obtain ⟨hg, hst⟩ := hr
    have h0 := vok_updEarliest h hg.ts
    have h1 := (VOk.kept N).buildQ (hg.ins hh) h0
    simp only [addRec, addQR_eq]
    refine vok_setStats ?_ st hst
    split
    · exact { h1.mono with qrs := List.forall_mem_append.2 ⟨h1.qrs, List.forall_mem_singleton.2 (qv_buildQ hh g hg _)⟩,
                           lenQ := List.length_append ▸ Nat.succ_le_succ h1.lenQ }
    · exact h1.mono
  | aec g st =>
    obtain ⟨hg, hst⟩ := hr
    have h0 := vok_setStats h st hst
    cases hon : on hh.odh OtherDataHintsMask.address_event_counts
    · simp only [addRec, addAEC_off hh g st b hon]; exact h0.mono
    · have h1 := VOk.kept N .ip hg.ip h0
      simp only [addRec, addAEC_on hh g st b hon]
      refine { h1.mono with aecs := fun x hx => ?_, lenA := Nat.le_trans (length_bump_le _ _) (Nat.succ_le_succ h1.lenA) }
      rcases mem_bump hx with ⟨e, he, hk, hc⟩ | rfl
      · exact ⟨hk ▸ (h1.aecs e he).1, Nat.le_trans hc (Nat.succ_le_succ (h1.aecs e he).2)⟩
      · exact ⟨⟨hg.aeType, hg.aeCode, hg.tf⟩, Nat.succ_le_succ (Nat.zero_le N)⟩
  | mm g st =>
    obtain ⟨hg, hst⟩ := hr
    have h0 := vok_setStats h st hst
    cases hon : on hh.odh OtherDataHintsMask.malformed_messages
    · simp only [addRec, addMM_off hh g st b hon]; exact h0.mono
    · obtain ⟨b1, cai, mdi, _, ha, e⟩ := addMM_spec hh g st b hon
      have h1 := ha (VOk.kept N) ⟨hg.clientIp, hg.serverIp, fun _ => ⟨hg.serverPort, hg.tf, hg.payload⟩⟩ (vok_updEarliest h0 hg.ts)
      simp only [addRec, e]
      split
      · exact { h1.mono with mms := List.forall_mem_append.2 ⟨h1.mms, List.forall_mem_singleton.2 hg.clientPort⟩,
                             lenM := List.length_append ▸ Nat.succ_le_succ h1.lenM }
      · exact h1.mono

theorem vok_empty : VOk 0 ({} : Blk) := by
  refine ⟨?_, ?_, ?_, ?_, ?_, ?_, ?_, ?_, ?_, ?_, ?_, Nat.le_refl _, Nat.le_refl _, Nat.le_refl _, ⟨by decide, by decide⟩, ?_⟩ <;>
    intro x hx <;> cases hx

theorem vok_build (hh : Hints) (recs : List Rec) (hrecs : ∀ r ∈ recs, RecOk r) : VOk recs.length (build hh recs) :=
  build_ind hh (fun done b => VOk done.length b) recs vok_empty fun done r b hr hb => by
    rw [List.length_append]; exact vok_addRec hh hb r (hrecs r hr)

theorem qre_ok {o : Option QRE} (h : ∀ r ∈ qreRefs o, r.2 < 2 ^ 32) : ∀ e, o = some e → QreOk e := by
  intro e he
  subst he
  simp only [qreRefs, List.forall_mem_append, forall_mem_oref] at h
  exact ⟨h.1.1.1, h.1.1.2, h.1.2, h.2⟩

/-- Value bounds + referential closure + the `index_t` limit on table sizes give everything `blk_conforms` asks for: every
    reference of a closed block is below its table's size, hence below 2^32, and the index members are read off the
    reference lists.  `hl` is an assumption on the input: `index_t` is `uint32_t` (src/format_specification.h), and
    `BlockTable::record_last_key` (src/block_table.h) narrows `items_.size()` to it without a check. -/
theorem blkOk_of {N : Nat} {b : Blk} (hv : VOk N b) (hc : Closed b) (hl : ∀ t, len b t ≤ 2 ^ 32) (hN : N < 2 ^ 64) : BlkOk b := by
  have l64 : ∀ t, len b t < 2 ^ 64 := fun t => Nat.lt_of_le_of_lt (hl t) (by decide)
  have b32 : ∀ {rs}, InB b rs → ∀ r ∈ rs, r.2 < 2 ^ 32 := fun h r hr => Nat.lt_of_lt_of_le (h r hr) (hl r.1)
  refine ⟨hv.ip, hv.ct, hv.nr, fun s hs => ?_, fun l hlm => ⟨hv.qlist l hlm, ?_⟩, fun p hp => ?_, fun l hlm => ⟨hv.rrlist l hlm, ?_⟩,
    fun r hr => ?_, fun d hd => ?_, fun q hqm => ?_, fun a ham => ?_, fun m hmm => ?_, l64, Nat.lt_of_le_of_lt hv.lenQ hN,
    Nat.lt_of_le_of_lt hv.lenA hN, Nat.lt_of_le_of_lt hv.lenM hN, hv.earliest, hv.stats⟩
  · have v := hv.sig s hs
    have h := b32 (hc.tbl .sig s hs)
    simp only [eltRefs, sigRefs, List.forall_mem_append, forall_mem_oref] at h
    exact ⟨h.1.1, v.port, v.tf, v.qt, v.sf, v.op, v.df, v.qrc, h.1.2, v.qd, v.an, v.ns, v.ar, v.ev, v.us, h.2, v.rrc⟩
  · exact List.forall_mem_map.1 (b32 (hc.tbl .ql l hlm))
  · have h := b32 (hc.tbl .qrr p hp)
    simp only [eltRefs, qrrRefs, List.forall_mem_cons] at h
    exact ⟨h.1, h.2.1⟩
  · exact List.forall_mem_map.1 (b32 (hc.tbl .rl l hlm))
  · have h := b32 (hc.tbl .rr r hr)
    simp only [eltRefs, rrRefs, List.forall_mem_append, List.forall_mem_cons, forall_mem_oref] at h
    exact ⟨h.1.1, h.1.2.1, hv.rr r hr, h.2⟩
  · have v := hv.mmd d hd
    exact ⟨forall_mem_oref.1 (b32 (hc.tbl .mmd d hd)), v.port, v.tf, v.payload⟩
  · have v := hv.qrs q hqm
    have h := b32 (hc.qrs q hqm)
    simp only [qRefs, List.forall_mem_append, forall_mem_oref] at h
    obtain ⟨⟨⟨⟨⟨hcai, hsg⟩, hqn⟩, hrpd⟩, hqx⟩, hrx⟩ := h
    refine ⟨hcai, v.cport, v.tid, hsg, v.hl, v.rd, hqn, v.qs, v.rs, fun rp hrp => ?_, qre_ok hqx, qre_ok hrx, v.asn, v.cc, v.rtt⟩
    rw [hrp] at hrpd
    exact ⟨forall_mem_oref.1 hrpd, v.rpd rp hrp⟩
  · have v := hv.aecs a ham
    have h := b32 (hc.aecs a ham)
    simp only [aecRefs, List.forall_mem_cons] at h
    exact ⟨v.1.aeType, v.1.aeCode, h.1, v.1.tf, Nat.lt_of_le_of_lt v.2 hN⟩
  · have h := b32 (hc.mms m hmm)
    simp only [mmRefs, List.forall_mem_append, forall_mem_oref] at h
    exact ⟨h.1, hv.mms m hmm, h.2⟩

theorem build_conforms (hh : Hints) (recs : List Rec) (pi : Option Nat) (hrecs : ∀ r ∈ recs, RecOk r) (hn : recs.length < 2 ^ 64)
    (hl : ∀ t, len (build hh recs) t ≤ 2 ^ 32) (hpi : ULt 32 pi) : Conforms Structs.block (toVal (build hh recs) pi hh.tps) :=
  blk_conforms _ pi hh.tps (blkOk_of (vok_build hh recs hrecs) (inv_build hh recs).1 hl hn) hpi

end CdnsVerif.Model.Builder
