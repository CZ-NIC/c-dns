/-
  The raw value of a built block (`Builder.toVal`) lies in the domain of the schema round trip (`Schema.Conforms block`)
  whenever the block's contents fit the widths of the C++ members (`BlkOk`): `blk_conforms`.  That the blocks built do fit is
  Proofs/BuilderBounds.lean.  Per struct: its bounds (`SigOk`, …), its slot list (`sigSlots`), the statement that the list describes
  the struct's `toVal` under its schema (`sig_desc`: two `rfl`s and one evaluation of the schema's member check) and the conformance
  theorem (`sig_conforms`), which names the bound of each member in slot order.
-/
import CdnsVerif.Proofs.Slots
import CdnsVerif.Proofs.Tables
import CdnsVerif.Model.Structs

namespace CdnsVerif.Model.Builder
open CdnsVerif.Generated CdnsVerif.Model.Schema CdnsVerif.Model.Structs CdnsVerif.Model.Timestamp

structure SigOk (s : Sig) : Prop where
  sai : ULt 32 s.sai
  port : ULt 16 s.port
  tf : ULt 8 s.tf
  qt : ULt 8 s.qt
  sf : ULt 8 s.sf
  op : ULt 8 s.op
  df : ULt 16 s.df
  qrc : ULt 16 s.qrc
  cti : ULt 32 s.cti
  qd : ULt 16 s.qd
  an : ULt 32 s.an
  ns : ULt 16 s.ns
  ar : ULt 16 s.ar
  ev : ULt 8 s.ev
  us : ULt 16 s.us
  ordi : ULt 32 s.ordi
  rrc : ULt 16 s.rrc

def sigSlots (s : Sig) : List Slot := [
  .N QueryResponseSignatureMapIndex.server_address_index 32 false s.sai, .N QueryResponseSignatureMapIndex.server_port 16 false s.port,
  .N QueryResponseSignatureMapIndex.qr_transport_flags 8 false s.tf, .N QueryResponseSignatureMapIndex.qr_type 8 false s.qt,
  .N QueryResponseSignatureMapIndex.qr_sig_flags 8 false s.sf, .N QueryResponseSignatureMapIndex.query_opcode 8 false s.op,
  .N QueryResponseSignatureMapIndex.qr_dns_flags 16 false s.df, .N QueryResponseSignatureMapIndex.query_rcode 16 false s.qrc,
  .N QueryResponseSignatureMapIndex.query_classtype_index 32 false s.cti, .N QueryResponseSignatureMapIndex.query_qdcount 16 false s.qd,
  .N QueryResponseSignatureMapIndex.query_ancount 32 false s.an, .N QueryResponseSignatureMapIndex.query_nscount 16 false s.ns,
  .N QueryResponseSignatureMapIndex.query_arcount 16 false s.ar, .N QueryResponseSignatureMapIndex.query_edns_version 8 false s.ev,
  .N QueryResponseSignatureMapIndex.query_udp_size 16 false s.us, .N QueryResponseSignatureMapIndex.query_opt_rdata_index 32 false s.ordi,
  .N QueryResponseSignatureMapIndex.response_rcode 16 false s.rrc]

theorem sig_desc (s : Sig) : Describes queryResponseSignature (Sig.toVal s) (sigSlots s) := ⟨rfl, rfl, by decide +kernel⟩

theorem sig_conforms (s : Sig) (h : SigOk s) : Conforms queryResponseSignature (Sig.toVal s) :=
  conforms_written (sig_desc s) <|
    .opt h.sai <| .opt h.port <| .opt h.tf <| .opt h.qt <| .opt h.sf <| .opt h.op <| .opt h.df <| .opt h.qrc <| .opt h.cti <| .opt h.qd <|
    .opt h.an <| .opt h.ns <| .opt h.ar <| .opt h.ev <| .opt h.us <| .opt h.ordi <| .opt h.rrc .nil

structure RrOk (r : RRe) : Prop where
  name : r.name < 2 ^ 32
  ct : r.ct < 2 ^ 32
  ttl : ULt 32 r.ttl
  rdata : ULt 32 r.rdata

def rrSlots (r : RRe) : List Slot := [
  .N RrMapIndex.name_index 32 true (some r.name), .N RrMapIndex.classtype_index 32 true (some r.ct),
  .N RrMapIndex.ttl 32 false r.ttl, .N RrMapIndex.rdata_index 32 false r.rdata]

theorem rr_desc (r : RRe) : Describes rr (RRe.toVal r) (rrSlots r) := ⟨rfl, rfl, by decide +kernel⟩

theorem rr_conforms (r : RRe) (h : RrOk r) : Conforms rr (RRe.toVal r) :=
  conforms_written (rr_desc r) <| .reqN h.name <| .reqN h.ct <| .opt h.ttl <| .opt h.rdata .nil

theorem pair_conforms (k0 k1 : Int) (bits : Nat) (p : Nat × Nat)
    (hf : fieldsOk [.mk k0 (.uint bits) true, .mk k1 (.uint bits) true] = true) (h0 : p.1 < 2 ^ bits) (h1 : p.2 < 2 ^ bits) :
    Conforms (.struct [.mk k0 (.uint bits) true, .mk k1 (.uint bits) true]) (pairVal k0 k1 p) :=
  conforms_written (l := [.N k0 bits true (some p.1), .N k1 bits true (some p.2)]) ⟨rfl, rfl, hf⟩ <| .reqN h0 <| .reqN h1 .nil

structure MmdOk (d : MMD) : Prop where
  sai : ULt 32 d.sai
  port : ULt 16 d.port
  tf : ULt 8 d.tf
  payload : OStrOk d.payload

def mmdSlots (d : MMD) : List Slot := [
  .N MalformedMessageDataMapIndex.server_address_index 32 false d.sai, .N MalformedMessageDataMapIndex.server_port 16 false d.port,
  .N MalformedMessageDataMapIndex.mm_transport_flags 8 false d.tf, .S MalformedMessageDataMapIndex.mm_payload .bstr d.payload]

theorem mmd_desc (d : MMD) : Describes malformedMessageData (MMD.toVal d) (mmdSlots d) := ⟨rfl, rfl, by decide +kernel⟩

theorem mmd_conforms (d : MMD) (h : MmdOk d) : Conforms malformedMessageData (MMD.toVal d) :=
  conforms_written (mmd_desc d) <| .opt h.sai <| .opt h.port <| .opt h.tf <| .opt h.payload .nil

structure QreOk (e : QRE) : Prop where
  q : ULt 32 e.q
  an : ULt 32 e.an
  au : ULt 32 e.au
  ad : ULt 32 e.ad

def qreSlots (e : QRE) : List Slot := [
  .N QueryResponseExtendedMapIndex.question_index 32 false e.q, .N QueryResponseExtendedMapIndex.answer_index 32 false e.an,
  .N QueryResponseExtendedMapIndex.authority_index 32 false e.au, .N QueryResponseExtendedMapIndex.additional_index 32 false e.ad]

theorem qre_desc (e : QRE) : Describes queryResponseExtended (QRE.toVal e) (qreSlots e) := ⟨rfl, rfl, by decide +kernel⟩

theorem qre_conforms (e : QRE) (h : QreOk e) : Conforms queryResponseExtended (QRE.toVal e) :=
  conforms_written (qre_desc e) <| .opt h.q <| .opt h.an <| .opt h.au <| .opt h.ad .nil

structure RpdOk (r : RPD) : Prop where
  bw : ULt 32 r.bw
  flags : ULt 8 r.flags

def rpdSlots (r : RPD) : List Slot := [
  .N ResponseProcessingDataMapIndex.bailiwick_index 32 false r.bw, .N ResponseProcessingDataMapIndex.processing_flags 8 false r.flags]

theorem rpd_desc (r : RPD) : Describes responseProcessingData (RPD.toVal r) (rpdSlots r) := ⟨rfl, rfl, by decide +kernel⟩

theorem rpd_conforms (r : RPD) (h : RpdOk r) : Conforms responseProcessingData (RPD.toVal r) :=
  conforms_written (rpd_desc r) <| .opt h.bw <| .opt h.flags .nil

theorem offsetOf_lt (t e : Ts) (r : Nat) : ULt 64 (offsetOf t e r) := by
  intro n hn
  unfold offsetOf at hn
  split at hn
  · cases hn
    unfold ofI64 two64
    omega
  · cases hn

theorem bind_offset_lt (ts : Option Ts) (e : Ts) (r : Nat) : ULt 64 (ts.bind fun t => offsetOf t e r) := by
  intro n hn
  cases ts with
  | none => cases hn
  | some t => exact offsetOf_lt t e r n hn

structure QRecOk (q : QRec) : Prop where
  cai : ULt 32 q.cai
  cport : ULt 16 q.cport
  tid : ULt 16 q.tid
  sig : ULt 32 q.sig
  hl : ULt 8 q.hl
  rd : I64 q.rd
  qn : ULt 32 q.qn
  qs : ULt 64 q.qs
  rs : ULt 64 q.rs
  rpd : ∀ r, q.rpd = some r → RpdOk r
  qx : ∀ e, q.qx = some e → QreOk e
  rx : ∀ e, q.rx = some e → QreOk e
  asn : OStrOk q.asn
  cc : OStrOk q.cc
  rtt : I64 q.rtt

def qrSlots (earliest : Ts) (tps : Nat) (q : QRec) : List Slot := [
  .N QueryResponseMapIndex.time_offset 64 false (q.ts.bind fun t => offsetOf t earliest tps),
  .N QueryResponseMapIndex.client_address_index 32 false q.cai, .N QueryResponseMapIndex.client_port 16 false q.cport,
  .N QueryResponseMapIndex.transaction_id 16 false q.tid, .N QueryResponseMapIndex.qr_signature_index 32 false q.sig,
  .N QueryResponseMapIndex.client_hoplimit 8 false q.hl, .I QueryResponseMapIndex.response_delay q.rd,
  .N QueryResponseMapIndex.query_name_index 32 false q.qn, .N QueryResponseMapIndex.query_size 64 false q.qs,
  .N QueryResponseMapIndex.response_size 64 false q.rs,
  .V QueryResponseMapIndex.response_processing_data responseProcessingData false (q.rpd.map RPD.toVal),
  .V QueryResponseMapIndex.query_extended queryResponseExtended false (q.qx.map QRE.toVal),
  .V QueryResponseMapIndex.response_extended queryResponseExtended false (q.rx.map QRE.toVal),
  .S QueryResponseMapIndex.asn .tstr q.asn, .S QueryResponseMapIndex.country_code .tstr q.cc,
  .I QueryResponseMapIndex.round_trip_time q.rtt]

theorem qr_desc (earliest : Ts) (tps : Nat) (q : QRec) : Describes queryResponse (QRec.toVal earliest tps q) (qrSlots earliest tps q) :=
  ⟨rfl, rfl, by decide +kernel⟩

theorem qr_conforms (earliest : Ts) (tps : Nat) (q : QRec) (h : QRecOk q) : Conforms queryResponse (QRec.toVal earliest tps q) :=
  conforms_written (qr_desc earliest tps q) <|
    .opt (bind_offset_lt _ _ _) <| .opt h.cai <| .opt h.cport <| .opt h.tid <| .opt h.sig <| .opt h.hl <| .opt h.rd <| .opt h.qn <|
    .opt h.qs <| .opt h.rs <| .opt (Slot.ok_map fun r hr => rpd_conforms r (h.rpd r hr)) <|
    .opt (Slot.ok_map fun e he => qre_conforms e (h.qx e he)) <| .opt (Slot.ok_map fun e he => qre_conforms e (h.rx e he)) <|
    .opt h.asn <| .opt h.cc <| .opt h.rtt .nil

structure AecOk (a : AEC × Nat) : Prop where
  aeType : a.1.aeType < 2 ^ 8
  aeCode : ULt 8 a.1.aeCode
  ai : a.1.ai < 2 ^ 32
  tf : ULt 8 a.1.tf
  count : a.2 < 2 ^ 64

def aecSlots (a : AEC × Nat) : List Slot := [
  .N AddressEventCountMapIndex.ae_type 8 true (some a.1.aeType), .N AddressEventCountMapIndex.ae_code 8 false a.1.aeCode,
  .N AddressEventCountMapIndex.ae_address_index 32 true (some a.1.ai), .N AddressEventCountMapIndex.ae_transport_flags 8 false a.1.tf,
  .N AddressEventCountMapIndex.ae_count 64 true (some a.2)]

theorem aec_desc (a : AEC × Nat) : Describes addressEventCount (AEC.toVal a) (aecSlots a) := ⟨rfl, rfl, by decide +kernel⟩

theorem aec_conforms (a : AEC × Nat) (h : AecOk a) : Conforms addressEventCount (AEC.toVal a) :=
  conforms_written (aec_desc a) <| .reqN h.aeType <| .opt h.aeCode <| .reqN h.ai <| .opt h.tf <| .reqN h.count .nil

structure MmOk (m : MMRec) : Prop where
  cai : ULt 32 m.cai
  cport : ULt 16 m.cport
  mdi : ULt 32 m.mdi

def mmSlots (earliest : Ts) (tps : Nat) (m : MMRec) : List Slot := [
  .N MalformedMessageMapIndex.time_offset 64 false (m.ts.bind fun t => offsetOf t earliest tps),
  .N MalformedMessageMapIndex.client_address_index 32 false m.cai, .N MalformedMessageMapIndex.client_port 16 false m.cport,
  .N MalformedMessageMapIndex.message_data_index 32 false m.mdi]

theorem mm_desc (earliest : Ts) (tps : Nat) (m : MMRec) : Describes malformedMessage (MMRec.toVal earliest tps m) (mmSlots earliest tps m) :=
  ⟨rfl, rfl, by decide +kernel⟩

theorem mm_conforms (earliest : Ts) (tps : Nat) (m : MMRec) (h : MmOk m) : Conforms malformedMessage (MMRec.toVal earliest tps m) :=
  conforms_written (mm_desc earliest tps m) <| .opt (bind_offset_lt _ _ _) <| .opt h.cai <| .opt h.cport <| .opt h.mdi .nil

def StatsOk (s : Stats) : Prop := ∀ i, ULt 32 (s.getD i none)

def statsSlots (s : Stats) : List Slot := [
  .N BlockStatisticsMapIndex.processed_messages 32 false (s.getD 0 none), .N BlockStatisticsMapIndex.qr_data_items 32 false (s.getD 1 none),
  .N BlockStatisticsMapIndex.unmatched_queries 32 false (s.getD 2 none), .N BlockStatisticsMapIndex.unmatched_responses 32 false (s.getD 3 none),
  .N BlockStatisticsMapIndex.discarded_opcode 32 false (s.getD 4 none), .N BlockStatisticsMapIndex.malformed_items 32 false (s.getD 5 none)]

theorem stats_desc (s : Stats) : Describes blockStatistics (statsVal s) (statsSlots s) := ⟨rfl, rfl, by decide +kernel⟩

theorem stats_conforms (s : Stats) (h : StatsOk s) : Conforms blockStatistics (statsVal s) :=
  conforms_written (stats_desc s) <| .opt (h 0) <| .opt (h 1) <| .opt (h 2) <| .opt (h 3) <| .opt (h 4) <| .opt (h 5) .nil

structure BlkOk (b : Blk) : Prop where
  ip : ∀ x ∈ b.ip, StrOk x
  ct : ∀ p ∈ b.ct, p.1 < 2 ^ 16 ∧ p.2 < 2 ^ 16
  nr : ∀ x ∈ b.nr, StrOk x
  sig : ∀ x ∈ b.sig, SigOk x
  qlist : ∀ l ∈ b.qlist, l.length < 2 ^ 64 ∧ ∀ n ∈ l, n < 2 ^ 32
  qrr : ∀ p ∈ b.qrr, p.1 < 2 ^ 32 ∧ p.2 < 2 ^ 32
  rrlist : ∀ l ∈ b.rrlist, l.length < 2 ^ 64 ∧ ∀ n ∈ l, n < 2 ^ 32
  rr : ∀ x ∈ b.rr, RrOk x
  mmd : ∀ x ∈ b.mmd, MmdOk x
  qrs : ∀ x ∈ b.qrs, QRecOk x
  aecs : ∀ x ∈ b.aecs, AecOk x
  mms : ∀ x ∈ b.mms, MmOk x
  lenT : ∀ t, len b t < 2 ^ 64
  lenQ : b.qrs.length < 2 ^ 64
  lenA : b.aecs.length < 2 ^ 64
  lenM : b.mms.length < 2 ^ 64
  earliest : b.earliest.secs < 2 ^ 64 ∧ b.earliest.ticks < 2 ^ 64
  stats : ∀ x, b.stats = some x → StatsOk x

theorem numList_conforms (bits : Nat) (hb : bits ≤ 64) (l : List Nat) (h : l.length < 2 ^ 64 ∧ ∀ n ∈ l, n < 2 ^ bits) :
    Conforms (.arr (.uint bits)) (Val.list (l.map fun (n : Nat) => Val.num (n : Int))) :=
  ⟨by rw [List.length_map]; exact h.1, conformsList_of _ _ (List.forall_mem_map.2 fun n hn => conforms_uint (h.2 n hn) hb)⟩

def tablesSlots (b : Blk) : List Slot := [
  .L BlockTablesMapIndex.ip_address .bstr (b.ip.map .str),
  .L BlockTablesMapIndex.classtype classType (b.ct.map (pairVal ClassTypeMapIndex.type ClassTypeMapIndex.class_)),
  .L BlockTablesMapIndex.name_rdata .bstr (b.nr.map .str),
  .L BlockTablesMapIndex.qr_sig queryResponseSignature (b.sig.map Sig.toVal),
  .L BlockTablesMapIndex.qlist (.arr (.uint 32)) (b.qlist.map fun l => .list (l.map fun (n : Nat) => .num (n : Int))),
  .L BlockTablesMapIndex.qrr question (b.qrr.map (pairVal QuestionMapIndex.name_index QuestionMapIndex.classtype_index)),
  .L BlockTablesMapIndex.rrlist (.arr (.uint 32)) (b.rrlist.map fun l => .list (l.map fun (n : Nat) => .num (n : Int))),
  .L BlockTablesMapIndex.rr rr (b.rr.map RRe.toVal),
  .L BlockTablesMapIndex.malformed_message_data malformedMessageData (b.mmd.map MMD.toVal)]

theorem tables_desc (b : Blk) : Describes blockTables (.record (tablesVal b)) (tablesSlots b) := ⟨rfl, rfl, by decide +kernel⟩

theorem tables_conforms (b : Blk) (h : BlkOk b) : Conforms blockTables (.record (tablesVal b)) :=
  conforms_written (tables_desc b) <|
    .opt (Slot.ok_list (h.lenT .ip) h.ip) <|
    .opt (Slot.ok_list (h.lenT .ct) fun p hp => pair_conforms _ _ 16 p (by decide) (h.ct p hp).1 (h.ct p hp).2) <|
    .opt (Slot.ok_list (h.lenT .nr) h.nr) <|
    .opt (Slot.ok_list (h.lenT .sig) fun x hx => sig_conforms x (h.sig x hx)) <|
    .opt (Slot.ok_list (h.lenT .ql) fun l hl => numList_conforms 32 (by decide) l (h.qlist l hl)) <|
    .opt (Slot.ok_list (h.lenT .qrr) fun p hp => pair_conforms _ _ 32 p (by decide) (h.qrr p hp).1 (h.qrr p hp).2) <|
    .opt (Slot.ok_list (h.lenT .rl) fun l hl => numList_conforms 32 (by decide) l (h.rrlist l hl)) <|
    .opt (Slot.ok_list (h.lenT .rr) fun x hx => rr_conforms x (h.rr x hx)) <|
    .opt (Slot.ok_list (h.lenT .mmd) fun x hx => mmd_conforms x (h.mmd x hx)) .nil

def preSlots (b : Blk) (pi : Option Nat) : List Slot := [
  .V BlockPreambleMapIndex.earliest_time timestamp false (some (.list [.num b.earliest.secs, .num b.earliest.ticks])),
  .N BlockPreambleMapIndex.block_parameters_index 32 false pi]

/-- the preamble member as `toVal` writes it (inline: the model has no writer of its own for it, as `Sig.toVal` … are for the other structs) -/
def preRec (b : Blk) (pi : Option Nat) : List (Int × Val) := written (preSlots b pi)
theorem pre_desc (b : Blk) (pi : Option Nat) : Describes blockPreamble (.record (preRec b pi)) (preSlots b pi) :=
  ⟨rfl, rfl, by decide +kernel⟩

theorem pre_conforms (b : Blk) (pi : Option Nat) (h : BlkOk b) (hpi : ULt 32 pi) : Conforms blockPreamble (.record (preRec b pi)) := by
  refine conforms_written (pre_desc b pi) <| .opt ?_ <| .opt hpi .nil
  intro v hv
  cases hv
  exact numList_conforms 64 (by decide) [b.earliest.secs, b.earliest.ticks] ⟨(by decide : 2 < 2 ^ 64), by simpa using h.earliest⟩

def blkSlots (b : Blk) (pi : Option Nat) (tps : Nat) : List Slot := [
  .V BlockMapIndex.block_preamble blockPreamble true (some (.record (preRec b pi))),
  .V BlockMapIndex.block_statistics blockStatistics false (b.stats.map statsVal),
  .R BlockMapIndex.block_tables blockTables (tablesVal b),
  .L BlockMapIndex.query_responses queryResponse (b.qrs.map (QRec.toVal b.earliest tps)),
  .L BlockMapIndex.address_event_counts addressEventCount (b.aecs.map AEC.toVal),
  .L BlockMapIndex.malformed_messages malformedMessage (b.mms.map (MMRec.toVal b.earliest tps))]

theorem blk_desc (b : Blk) (pi : Option Nat) (tps : Nat) : Describes block (toVal b pi tps) (blkSlots b pi tps) :=
  ⟨rfl, rfl, by decide +kernel⟩

theorem blk_conforms (b : Blk) (pi : Option Nat) (tps : Nat) (h : BlkOk b) (hpi : ULt 32 pi) : Conforms block (toVal b pi tps) :=
  conforms_written (blk_desc b pi tps) <|
    .reqV (pre_conforms b pi h hpi) <| .opt (Slot.ok_map fun s hs => stats_conforms s (h.stats s hs)) <| .opt (tables_conforms b h) <|
    .opt (Slot.ok_list h.lenQ fun q hq => qr_conforms _ _ q (h.qrs q hq)) <|
    .opt (Slot.ok_list h.lenA fun a ha => aec_conforms a (h.aecs a ha)) <|
    .opt (Slot.ok_list h.lenM fun m hm => mm_conforms _ _ m (h.mms m hm)) .nil

end CdnsVerif.Model.Builder
