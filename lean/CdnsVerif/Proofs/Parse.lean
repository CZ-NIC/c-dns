/-
  The strict RFC 8949 parser is a left inverse of the encoding: for every well-formed syntax tree `i`, `parseItem` returns `i` from
  `i.enc ++ rest` and leaves `rest`, given the fuel `pneed i ≤ 2·|i.enc|` (`parse_enc`); hence `parseOne i.enc = some i` (`parseOne_enc`, used
  by `file_parses_back` in Props/C02.lean), and the encoding is injective on well-formed trees (`enc_injective`).
-/
import CdnsVerif.Spec.CborParse

namespace CdnsVerif.Spec.Cbor

mutual
/-- fuel that is enough for the parser on `i.enc` (`parse_enc`): a unit per item, per chunk, and for the call that finds a list or a chunked
    string at its end (`pneedL [] = 1`) -/
def pneed : Item → Nat
  | .arr _ items => 1 + pneedL items
  | .arrI items => 1 + pneedL items
  | .map _ items => 1 + pneedL items
  | .mapI items => 1 + pneedL items
  | .tag _ _ c => 1 + pneed c
  | .bstrI cs => cs.length + 2
  | .tstrI cs => cs.length + 2
  | .uint _ _ => 1
  | .nint _ _ => 1
  | .bstr _ _ => 1
  | .tstr _ _ => 1
  | .simple _ => 1
  | .simple1 _ => 1
  | .f16 _ => 1
  | .f32 _ => 1
  | .f64 _ => 1
def pneedL : List Item → Nat
  | [] => 1
  | i :: is => pneed i + pneedL is
end

theorem pneed_pos (i : Item) : 1 ≤ pneed i := by cases i <;> simp [pneed] <;> omega
theorem pneedL_pos (l : List Item) : 1 ≤ pneedL l := by cases l <;> simp [pneedL]; have := pneed_pos ‹Item›; omega

mutual
theorem pneed_le (i : Item) : pneed i ≤ 2 * i.enc.length := by
  cases i with
  | bstrI cs => have := encChunks_length mBstr cs; simp [pneed, Item.enc, indefHead]; omega
  | tstrI cs => have := encChunks_length mTstr cs; simp [pneed, Item.enc, indefHead]; omega
  | tag _ _ c => have := pneed_le c; simp [pneed, Item.enc, head_length]; omega
  | arr _ items | arrI items | map _ items | mapI items =>
    have := pneedL_le items; simp [pneed, Item.enc, head_length, indefHead]; omega
  | _ => simp [pneed, Item.enc, head_length] <;> omega
theorem pneedL_le (items : List Item) : pneedL items ≤ 1 + 2 * (Item.encList items).length := by
  match items with
  | [] => simp [pneedL, Item.encList]
  | i :: is => have := pneed_le i; have := pneedL_le is; simp [pneedL, Item.encList]; omega
end

theorem parseArg_ai (w : Width) (n : Nat) (h : w.fits n) (bs : Bytes) :
    parseArg (w.ai n) bs = if w = .imm then some (.imm, n, bs)
      else if bs.length < w.nbytes then none else some (w, beVal (bs.take w.nbytes), bs.drop w.nbytes) := by
  cases w with
  | imm =>
    have : n < 24 := h
    simp [parseArg, Width.ai, this]
  | _ => rfl

theorem parseArg_head (w : Width) (n : Nat) (h : w.fits n) (rest : Bytes) :
    parseArg (w.ai n) (be w.nbytes n ++ rest) = some (w, n, rest) := by
  have hl := be_length w.nbytes n
  rw [parseArg_ai w n h]
  split
  · subst w
    rfl
  · rename_i hw
    rw [if_neg (by simp [hl]), List.take_left' hl, List.drop_left' hl,
      beVal_be_of_lt _ _ (by simpa [Width.fits, bound_eq, hw] using h)]

/-- the parser's step "take the `k` argument bytes" on a big-endian argument -/
theorem take_arg {α : Type} (C : Nat → α) (k b : Nat) (hb : b < 256 ^ k) (rest : Bytes) :
    (if (be k b ++ rest).length < k then none
      else some (C (beVal ((be k b ++ rest).take k)), (be k b ++ rest).drop k)) = some (C b, rest) := by
  have hl := be_length k b
  rw [if_neg (by simp [hl]), List.take_left' hl, List.drop_left' hl, beVal_be_of_lt k b hb]

theorem take_bytes {α : Type} (C : Bytes → α) (bs rest : Bytes) :
    (if (bs ++ rest).length < bs.length then none
      else some (C ((bs ++ rest).take bs.length), (bs ++ rest).drop bs.length)) = some (C bs, rest) := by
  rw [if_neg (by simp), List.take_left, List.drop_left]

/-- the branch of `parseItem` taken by an item that starts with a definite head of major type `m < 7` -/
theorem parseItem_head (m : Nat) (hm : m < 7) (w : Width) (n : Nat) (h : w.fits n) (f : Nat) (tail : Bytes) :
    parseItem (f + 1) (head m w n ++ tail) =
      (if m = 0 then some (.uint w n, tail)
        else if m = 1 then some (.nint w n, tail)
        else if m = 2 then (if tail.length < n then none else some (.bstr w (tail.take n), tail.drop n))
        else if m = 3 then (if tail.length < n then none else some (.tstr w (tail.take n), tail.drop n))
        else if m = 4 then (parseItems f n tail).map fun (is, r) => (.arr w is, r)
        else if m = 5 then (parseItems f (2 * n) tail).map fun (is, r) => (.map w is, r)
        else match parseItem f tail with
          | some (c, r) => some (.tag w n c, r)
          | none => none) := by
  have hai := ai_le_27 w n h
  rw [head_cons, List.cons_append]
  have e1 : (m * 32 + w.ai n) / 32 = m := by omega
  have e2 : (m * 32 + w.ai n) % 32 = w.ai n := by omega
  have e3 : ¬ (m * 32 + w.ai n ≥ 256) := by omega
  have e4 : ¬ (m = 7) := by omega
  have e5 : ¬ (w.ai n = 31) := by omega
  simp only [parseItem, e1, e2, e3, e4, e5, if_false, parseArg_head w n h tail]
  rfl

theorem parseChunks_enc (m : Nat) (cs : List Chunk) (hcs : chunksWF cs) (fuel : Nat) (hf : cs.length + 1 ≤ fuel)
    (rest : Bytes) : parseChunks m fuel (encChunks m cs ++ 0xff :: rest) = some (cs, rest) := by
  induction cs generalizing fuel with
  | nil =>
    obtain ⟨f, rfl⟩ : ∃ f, fuel = f + 1 := ⟨fuel - 1, by simp at hf; omega⟩
    simp [encChunks, parseChunks]
  | cons c cs ih =>
    obtain ⟨f, rfl⟩ : ∃ f, fuel = f + 1 := ⟨fuel - 1, by simp at hf; omega⟩
    obtain ⟨w, bs⟩ := c
    obtain ⟨⟨hfit, _⟩, hrest⟩ := hcs
    have hai := ai_le_27 w bs.length hfit
    simp only [encChunks, encChunk, List.append_assoc]
    rw [head_cons, List.cons_append, parseChunks]
    have e0 : ¬ (m * 32 + w.ai bs.length = 0xff) := by omega
    have e1 : ¬ ((m * 32 + w.ai bs.length) / 32 ≠ m) := by omega
    have e2 : (m * 32 + w.ai bs.length) % 32 = w.ai bs.length := by omega
    simp only [e0, e1, e2, if_false, parseArg_head w bs.length hfit]
    have e3 : ¬ ((bs ++ (encChunks m cs ++ 0xff :: rest)).length < bs.length) := by simp
    simp only [e3, if_false, List.drop_left, List.take_left]
    rw [ih hrest f (by simp at hf; omega)]

mutual
/-- once the head byte is known, the parser's way through its case distinction is a computation (`show`); what is left is the payload -/
theorem parse_enc (i : Item) (hwf : i.WF) (fuel : Nat) (hf : pneed i ≤ fuel) (rest : Bytes) :
    parseItem fuel (i.enc ++ rest) = some (i, rest) := by
  obtain ⟨f, rfl⟩ : ∃ f, fuel = f + 1 := ⟨fuel - 1, by have := pneed_pos i; omega⟩
  match i, hwf, hf with
  | .uint w n, hwf, _ => rw [Item.enc, parseItem_head mUint (by decide) w n hwf]; rfl
  | .nint w n, hwf, _ => rw [Item.enc, parseItem_head mNint (by decide) w n hwf]; rfl
  | .bstr w bs, hwf, _ =>
    rw [Item.enc, List.append_assoc, parseItem_head mBstr (by decide) w bs.length hwf.1]
    exact take_bytes (Item.bstr w) bs rest
  | .tstr w bs, hwf, _ =>
    rw [Item.enc, List.append_assoc, parseItem_head mTstr (by decide) w bs.length hwf.1]
    exact take_bytes (Item.tstr w) bs rest
  | .bstrI cs, hwf, hf =>
    rw [Item.enc, List.append_assoc, List.append_assoc]
    show (parseChunks 2 f (encChunks 2 cs ++ 0xff :: rest)).map _ = _
    rw [parseChunks_enc 2 cs hwf f (by simp only [pneed] at hf; omega) rest]; rfl
  | .tstrI cs, hwf, hf =>
    rw [Item.enc, List.append_assoc, List.append_assoc]
    show (parseChunks 3 f (encChunks 3 cs ++ 0xff :: rest)).map _ = _
    rw [parseChunks_enc 3 cs hwf f (by simp only [pneed] at hf; omega) rest]; rfl
  | .arr w items, hwf, hf =>
    rw [Item.enc, List.append_assoc, parseItem_head mArr (by decide) w items.length hwf.1]
    show (parseItems f items.length _).map _ = _
    rw [parseItems_enc items hwf.2 f (by simp only [pneed] at hf; omega) rest]; rfl
  | .map w items, hwf, hf =>
    rw [Item.enc, List.append_assoc, parseItem_head mMap (by decide) w (items.length / 2) hwf.1]
    show (parseItems f (2 * (items.length / 2)) _).map _ = _
    rw [show 2 * (items.length / 2) = items.length by have := hwf.2.1; omega,
      parseItems_enc items hwf.2.2 f (by simp only [pneed] at hf; omega) rest]; rfl
  | .arrI items, hwf, hf =>
    rw [Item.enc, List.append_assoc, List.append_assoc]
    show (parseUntilBreak f (Item.encList items ++ 0xff :: rest)).map _ = _
    rw [parseUntil_enc items hwf f (by simp only [pneed] at hf; omega) rest]; rfl
  | .mapI items, hwf, hf =>
    rw [Item.enc, List.append_assoc, List.append_assoc]
    show (match parseUntilBreak f (Item.encList items ++ 0xff :: rest) with
      | some (is, r) => if is.length % 2 = 0 then some (Item.mapI is, r) else none
      | none => none) = _
    rw [parseUntil_enc items hwf.2 f (by simp only [pneed] at hf; omega) rest]
    exact if_pos hwf.1
  | .tag w n c, hwf, hf =>
    rw [Item.enc, List.append_assoc, parseItem_head mTag (by decide) w n hwf.1]
    show (match parseItem f (c.enc ++ rest) with
      | some (c, r) => some (Item.tag w n c, r)
      | none => none) = _
    rw [parse_enc c hwf.2 f (by simp only [pneed] at hf; omega) rest]
  | .simple n, hwf, _ =>
    have hn : n < 24 := hwf
    simp only [Item.enc, List.cons_append, List.nil_append, parseItem, mSimple, show (7 * 32 + n) / 32 = 7 by omega,
      show (7 * 32 + n) % 32 = n by omega, show ¬ (7 * 32 + n ≥ 256) by omega, hn, if_true, if_false]
  | .simple1 n, hwf, _ =>
    show (if 32 ≤ n ∧ n < 256 then some (Item.simple1 n, rest) else none) = _
    exact if_pos hwf
  | .f16 b, hwf, _ => exact take_arg Item.f16 2 b (show b < 2 ^ 16 from hwf) rest
  | .f32 b, hwf, _ => exact take_arg Item.f32 4 b (show b < 2 ^ 32 from hwf) rest
  | .f64 b, hwf, _ => exact take_arg Item.f64 8 b (show b < 2 ^ 64 from hwf) rest
theorem parseItems_enc (items : List Item) (hwf : Item.WFList items) (fuel : Nat) (hf : pneedL items ≤ fuel) (rest : Bytes) :
    parseItems fuel items.length (Item.encList items ++ rest) = some (items, rest) := by
  obtain ⟨f, rfl⟩ : ∃ f, fuel = f + 1 := ⟨fuel - 1, by have := pneedL_pos items; omega⟩
  match items, hwf, hf with
  | [], _, _ => simp [parseItems, Item.encList]
  | i :: is, hwf, hf =>
    simp only [pneedL] at hf
    have h1 := pneed_pos i
    have h2 := pneedL_pos is
    simp only [List.length_cons, Item.encList, List.append_assoc, parseItems]
    rw [parse_enc i hwf.1 f (by omega) _]
    simp only
    rw [parseItems_enc is hwf.2 f (by omega) rest]
theorem parseUntil_enc (items : List Item) (hwf : Item.WFList items) (fuel : Nat) (hf : pneedL items ≤ fuel) (rest : Bytes) :
    parseUntilBreak fuel (Item.encList items ++ 0xff :: rest) = some (items, rest) := by
  obtain ⟨f, rfl⟩ : ∃ f, fuel = f + 1 := ⟨fuel - 1, by have := pneedL_pos items; omega⟩
  match items, hwf, hf with
  | [], _, _ => simp [parseUntilBreak, Item.encList]
  | i :: is, hwf, hf =>
    simp only [pneedL] at hf
    have h1 := pneed_pos i
    have h2 := pneedL_pos is
    obtain ⟨b, tl, he, hb⟩ := enc_first i hwf.1
    simp only [Item.encList, List.append_assoc]
    have hp := parse_enc i hwf.1 f (by omega) (Item.encList is ++ 0xff :: rest)
    rw [he] at hp ⊢
    simp only [List.cons_append] at hp ⊢
    rw [parseUntilBreak]
    simp only [hb, if_false, hp]
    rw [parseUntil_enc is hwf.2 f (by omega) rest]
end

theorem parseOne_enc (i : Item) (hwf : i.WF) : parseOne i.enc = some i := by
  unfold parseOne
  have hall : i.enc.all (· < 256) = true := by
    rw [List.all_eq_true]
    intro x hx
    simpa using enc_ok i hwf x hx
  simp only [hall, not_true_eq_false, if_false]
  have := parse_enc i hwf (2 * i.enc.length + 2) (by have := pneed_le i; omega) []
  rw [List.append_nil] at this
  rw [this]

theorem enc_injective (i j : Item) (hi : i.WF) (hj : j.WF) (h : i.enc = j.enc) : i = j :=
  Option.some.inj ((parseOne_enc i hi).symm.trans (h ▸ parseOne_enc j hj))

end CdnsVerif.Spec.Cbor
