/-
  The loop that `read_array` and the member loop of every struct reader share (`Model.Schema.readElems`, `readFields`):
  `loopHead` stops when the announced count is used up or, for an indefinite length, at the break; otherwise it runs one
  iteration (`fieldStep` for members).  `peek_type` leaves the input where it is, so a loop either leaves with its accumulator
  or does what its iteration does on that same input: the theorems about the readers only speak about the iteration.
-/
import CdnsVerif.Model.Schema
import CdnsVerif.Proofs.Prog
import CdnsVerif.Proofs.Decoder

namespace CdnsVerif.Model.Schema
open CdnsVerif.Spec.Cbor CdnsVerif.Model.Decoder

def loopHead {α : Type} (len : Nat) (indef : Bool) (acc : α) (body : Prog α) : Prog α :=
  if len = 0 ∧ indef = false then pure acc
  else if indef then do
    let t ← peekType
    if t = tBreak then do readBreak; pure acc else body
  else body

def fieldStep (fuel : Nat) (fs : List Field) (len : Nat) (indef : Bool) (acc : List (Int × Val)) : Prog (List (Int × Val)) := do
  let key ← readInteger
  match fs.find? (fun f => f.key == key) with
  | some f => do
    let v ← readVal fuel f.kind
    readFields fuel fs (len - 1) indef (setKey acc key v)
  | none => do
    skipItem (3 * fuel + 2)
    readFields fuel fs (len - 1) indef acc

theorem readElems_eq (fuel : Nat) (k : Kind) (len : Nat) (indef : Bool) (acc : List Val) :
    readElems (fuel + 1) k len indef acc =
      loopHead len indef acc (do let v ← readVal fuel k; readElems fuel k (len - 1) indef (acc ++ [v])) := by rfl

theorem readFields_eq (fuel : Nat) (fs : List Field) (len : Nat) (indef : Bool) (acc : List (Int × Val)) :
    readFields (fuel + 1) fs len indef acc = loopHead len indef acc (fieldStep fuel fs len indef acc) := by rfl

theorem loopHead_congr {α : Type} (len : Nat) (indef : Bool) (acc : α) {b1 b2 : Prog α} {bs : Bytes}
    (h : b1.run bs = b2.run bs) : (loopHead len indef acc b1).run bs = (loopHead len indef acc b2).run bs := by
  refine Prog.run_ite_congr (fun _ => rfl) fun _ => Prog.run_ite_congr (fun _ => ?_) fun _ => h
  cases bs with
  | nil => rfl
  | cons b tl => rw [run_peekType_bind, run_peekType_bind]; exact Prog.run_ite_congr (fun _ => rfl) fun _ => h

/-- the type peeked in front of a well-formed item is never BREAK -/
theorem run_peek_item (i : Item) (hwf : i.WF) (rest : Bytes) (f : Nat → Prog α) (r : Except Err (α × Bytes))
    (h : ∀ t, t ≠ tBreak → (f t).run (i.enc ++ rest) = r) : (peekType >>= f).run (i.enc ++ rest) = r := by
  obtain ⟨b, tl, he, hb⟩ := enc_first i hwf
  have h1 : ¬ (b = tBreak) := by rw [tBreak_eq]; exact hb
  rw [← h (b / 32 * 32) (by rw [tBreak_eq]; omega), he, List.cons_append, run_peekType_bind]
  simp only [h1, if_false]

theorem loopHead_indef {α : Type} (len : Nat) (acc : α) (body : Prog α) :
    loopHead len true acc body = (do let t ← peekType; if t = tBreak then do readBreak; pure acc else body) := by
  have h0 : ¬ (len = 0 ∧ true = false) := by simp
  unfold loopHead
  rw [if_neg h0, if_pos rfl]

/-- what closes a loop behind its last iteration: the break if the length is indefinite, nothing otherwise -/
def closing : Bool → Bytes → Bytes
  | true, rest => breakByte :: rest
  | false, rest => rest

theorem loopHead_done {α : Type} (len : Nat) (indef : Bool) (acc : α) (body : Prog α) (rest : Bytes)
    (h : indef = false → len = 0) : (loopHead len indef acc body).run (closing indef rest) = .ok (acc, rest) := by
  cases indef with
  | false => rw [h rfl]; rfl
  | true => rw [loopHead_indef, closing, peek_break]; rfl

theorem loopHead_item {α : Type} (len : Nat) (indef : Bool) (acc : α) (body : Prog α) (i : Item) (hwf : i.WF) (rest : Bytes)
    (h : indef = false → len ≠ 0) : (loopHead len indef acc body).run (i.enc ++ rest) = body.run (i.enc ++ rest) := by
  cases indef with
  | false => obtain ⟨n, rfl⟩ := Nat.exists_eq_succ_of_ne_zero (h rfl); rfl
  | true => rw [loopHead_indef]; exact run_peek_item i hwf rest _ _ fun t ht => by rw [if_neg ht]

end CdnsVerif.Model.Schema
