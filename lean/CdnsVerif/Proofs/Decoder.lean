/-
  What the decoder's primitive readers do on the pieces of an encoding – the head byte `m·32 + a`, the argument bytes (through `beVal`),
  the content of a string in either layout – and what they take from ANY input (`isNext_read…`, `pays_read…`).
-/
import CdnsVerif.Model.Decoder
import CdnsVerif.Proofs.Prog

namespace CdnsVerif.Model.Decoder
open CdnsVerif.Spec.Cbor

-- generated obligations: the decoder model's major-type codes (those of the encoder model's copies are in Proofs/Encoder.lean)
theorem tUnsigned_eq : tUnsigned = mUint * 32 := by decide
theorem tNegative_eq : tNegative = mNint * 32 := by decide
theorem tByteString_eq : tByteString = mBstr * 32 := by decide
theorem tTextString_eq : tTextString = mTstr * 32 := by decide
theorem tArray_eq : tArray = mArr * 32 := by decide
theorem tMap_eq : tMap = mMap * 32 := by decide
theorem tTag_eq : tTag = mTag * 32 := by decide
theorem tSimple_eq : tSimple = mSimple * 32 := by decide
theorem tBreak_eq : tBreak = 255 := by decide

/-- the arithmetic form used by the model equals the C++ bit masks for every byte value -/
theorem mask_eq : ∀ b < 256, b &&& 0xE0 = b / 32 * 32 ∧ b &&& 0x1F = b % 32 := by decide +kernel

@[simp] theorem run_readCborType (b : Nat) (bs : Bytes) :
    readCborType.run (b :: bs) = .ok ((b / 32 * 32, b % 32), bs) := rfl

@[simp] theorem run_readCborType_nil : readCborType.run [] = .error .end_ := rfl

theorem run_readCborType_add (m a : Nat) (ha : a < 32) (bs : Bytes) :
    readCborType.run ((m * 32 + a) :: bs) = .ok ((m * 32, a), bs) := by
  rw [run_readCborType, show (m * 32 + a) / 32 * 32 = m * 32 by omega, show (m * 32 + a) % 32 = a by omega]

theorem run_head (m : Nat) (w : Width) (v : Nat) (h : w.fits v) (rest : Bytes) (f : Nat × Nat → Prog α) :
    (readCborType >>= f).run (head m w v ++ rest) = (f (m * 32, w.ai v)).run (be w.nbytes v ++ rest) := by
  rw [head_cons, List.cons_append, Prog.run_bind_ok (run_readCborType_add m _ (ai_lt w v h) _)]

theorem run_indefHead (m : Nat) (rest : Bytes) (f : Nat × Nat → Prog α) :
    (readCborType >>= f).run (indefHead m ++ rest) = (f (m * 32, 31)).run rest :=
  Prog.run_bind_ok (run_readCborType_add m 31 (by omega) rest)

@[simp] theorem run_peekType (b : Nat) (bs : Bytes) :
    peekType.run (b :: bs) = .ok (if b = tBreak then tBreak else b / 32 * 32, b :: bs) := rfl

theorem run_peekType_bind {α : Type} (f : Nat → Prog α) (b : Nat) (bs : Bytes) :
    (peekType >>= f).run (b :: bs) = (f (if b = tBreak then tBreak else b / 32 * 32)).run (b :: bs) :=
  Prog.run_bind_ok (run_peekType b bs)

theorem peek_break (rest : Bytes) (f : Nat → Prog α) :
    (peekType >>= f).run (breakByte :: rest) = (f tBreak).run (breakByte :: rest) :=
  run_peekType_bind f breakByte rest

theorem peek_head (m : Nat) (w : Width) (v : Nat) (h : w.fits v) (rest : Bytes) (f : Nat → Prog α) :
    (peekType >>= f).run (head m w v ++ rest) = (f (m * 32)).run (head m w v ++ rest) := by
  rw [head_cons, List.cons_append, run_peekType_bind]
  have hai := ai_le_27 w v h
  have : ¬ (m * 32 + w.ai v = tBreak) := by rw [tBreak_eq]; omega
  simp only [this, if_false]
  rw [show (m * 32 + w.ai v) / 32 * 32 = m * 32 by omega]

theorem run_readBE_bytes (a rest : Bytes) : (readBE a.length).run (a ++ rest) = .ok (beVal a, rest) := by
  induction a with
  | nil => rfl
  | cons x xs ih =>
    simp only [List.length_cons, readBE, List.cons_append, Prog.run_next_cons]
    rw [Prog.run_bind_ok ih]
    rfl

theorem run_readBE (k v : Nat) (rest : Bytes) :
    (readBE k).run (be k v ++ rest) = .ok (v % 256 ^ k, rest) := by
  have := run_readBE_bytes (be k v) rest
  rwa [be_length, beVal_be] at this

theorem readInt_ai (w : Width) (v : Nat) (h : w.fits v) :
    readInt (w.ai v) = if w = .imm then pure v else readBE w.nbytes := by
  cases w with
  | imm =>
    have : v ≤ 23 := Nat.le_of_lt_succ h
    simp [readInt, Width.ai, this]
  | _ => rfl

theorem run_readInt (w : Width) (v : Nat) (h : w.fits v) (rest : Bytes) :
    (readInt (w.ai v)).run (be w.nbytes v ++ rest) = .ok (v, rest) := by
  rw [readInt_ai w v h]
  split
  · subst w
    rfl
  · rename_i hw
    rw [run_readBE, Nat.mod_eq_of_lt (by simpa [Width.fits, bound_eq, hw] using h)]

theorem run_readNAux_eq : ∀ (n : Nat) (acc bs : Bytes),
    (readNAux n acc).run bs = if n ≤ bs.length then .ok (acc.reverse ++ bs.take n, bs.drop n) else .error .end_
  | 0, acc, bs => by simp [readNAux]
  | n+1, acc, [] => rfl
  | n+1, acc, b :: t => by
    simp only [readNAux, Prog.run_next_cons, run_readNAux_eq n (b :: acc) t, List.length_cons, Nat.add_le_add_iff_right,
      List.reverse_cons, List.append_assoc, List.singleton_append, List.take_succ_cons, List.drop_succ_cons]

theorem run_readN_eq (n : Nat) (bs : Bytes) :
    (readN n).run bs = if n ≤ bs.length then .ok (bs.take n, bs.drop n) else .error .end_ := by
  rw [readN, run_readNAux_eq]; rfl

theorem run_readN (bs rest : Bytes) : (readN bs.length).run (bs ++ rest) = .ok (bs, rest) := by
  rw [run_readN_eq, if_pos (by simp), List.take_left', List.drop_left'] <;> rfl

theorem readBreak_accepts (rest : Bytes) : readBreak.run (breakByte :: rest) = .ok ((), rest) := rfl

theorem run_readChunks (m : Nat) (rest : Bytes) : ∀ (cs : List Chunk) (fuel : Nat), chunksWF cs → cs.length < fuel →
    (readChunks (m * 32) fuel).run (encChunks m cs ++ breakByte :: rest) = .ok (chunksVal cs, breakByte :: rest)
  | _, 0, _, hf => absurd hf (Nat.not_lt_zero _)
  | [], _ + 1, _, _ => rfl
  | c :: cs, fuel + 1, ⟨⟨hfit, _⟩, hcs⟩, hf => by
    unfold readChunks
    simp only [encChunks, encChunk, chunksVal, List.append_assoc]
    rw [peek_head m c.1 c.2.length hfit]
    have hnb : ¬ (m * 32 = tBreak) := by rw [tBreak_eq]; omega
    have h31 : ¬ (c.1.ai c.2.length = 31) := by have := ai_le_27 c.1 c.2.length hfit; omega
    simp only [hnb, if_false]
    rw [run_head m c.1 c.2.length hfit]
    simp only [ne_eq, not_true_eq_false, if_false, h31]
    rw [Prog.run_bind_ok (run_readInt c.1 c.2.length hfit _), Prog.run_bind_ok (run_readN c.2 _),
      Prog.run_bind_ok (run_readChunks m rest cs fuel hcs (Nat.lt_of_succ_lt_succ hf))]
    rfl

theorem run_readString_def (t : Nat) (bs rest : Bytes) (fuel : Nat) :
    (readString t bs.length false fuel).run (bs ++ rest) = .ok (bs, rest) := run_readN bs rest

theorem run_readString_indef (m : Nat) (cs : List Chunk) (hcs : chunksWF cs)
    (n fuel : Nat) (hf : cs.length + 1 ≤ fuel) (rest : Bytes) :
    (readString (m * 32) n true fuel).run (encChunks m cs ++ breakByte :: rest) = .ok (chunksVal cs, rest) := by
  show (do let r ← readChunks (m * 32) fuel; readBreak; pure r).run _ = _
  rw [Prog.run_bind_ok (run_readChunks m rest cs fuel hcs hf), Prog.run_bind_ok (readBreak_accepts rest)]
  rfl

end CdnsVerif.Model.Decoder

-- the readers whose first action takes a byte, in the namespace of `IsNext` (Proofs/Prog.lean)
namespace CdnsVerif.Proofs.Fuel
open CdnsVerif.Model.Decoder

theorem isNext_readCborType : IsNext readCborType := trivial
theorem isNext_readUnsigned : IsNext readUnsigned := isNext_bind _ isNext_readCborType
theorem isNext_readNegative : IsNext readNegative := isNext_bind _ isNext_readCborType
theorem isNext_readBool : IsNext readBool := isNext_bind _ isNext_readCborType
theorem isNext_readBreak : IsNext readBreak := isNext_bind _ isNext_readCborType
theorem isNext_readStr (m f : Nat) : IsNext (readStr m f) := isNext_bind _ isNext_readCborType
theorem isNext_readStart (m : Nat) : IsNext (readStart m) := isNext_bind _ isNext_readCborType

end CdnsVerif.Proofs.Fuel

namespace CdnsVerif.Model.Decoder
open CdnsVerif.Spec.Cbor CdnsVerif.Proofs.Fuel
open CdnsVerif.Model.Prog (Pays)

theorem pays_readInteger : Pays readInteger fun _ => 1 :=
  .bind (.free _) fun t => .ite (.bind (.of_isNext isNext_readUnsigned) fun _ => .free _)
    (.ite (.of_isNext isNext_readNegative) .throw)

theorem readN_split {n : Nat} {bs out r : Bytes} (h : (readN n).run bs = .ok (out, r)) : bs = out ++ r := by
  rw [run_readN_eq] at h
  split at h
  · cases h; exact (List.take_append_drop n bs).symm
  · cases h

theorem pays_readN (n : Nat) : Pays (readN n) List.length := fun bs out r h => by
  rw [readN_split h, List.length_append]; exact Nat.le_refl _

theorem pays_readChunks (major : Nat) : ∀ f : Nat, Pays (readChunks major f) List.length
  | 0 => .throw
  | f+1 => by
    refine .bind (.free _) fun t => .ite (.pure rfl) ?_
    refine .bind (.free _) fun ⟨ct, cl⟩ => .ite .throw (.ite .throw ?_)
    refine .bind (.free _) fun n => .bind (pays_readN n) fun c => .bind (pays_readChunks major f) fun rr => .pure ?_
    simp only [List.length_append]; omega

theorem pays_readStr (major f : Nat) : Pays (readStr major f) fun out => 1 + out.length := by
  refine .bind (.of_isNext isNext_readCborType) fun ⟨t, ai⟩ => .ite .throw (.ite .throw (.bind (.free _) fun n => ?_))
  refine .ite ((pays_readN n).mono fun _ => by omega) ?_
  exact .bind (pays_readChunks major f) fun c => .bind (.free _) fun _ => .pure (by omega)

end CdnsVerif.Model.Decoder
