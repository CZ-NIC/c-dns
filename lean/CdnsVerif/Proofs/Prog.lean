/-
  Decoder programs in general (`Model.Prog`): what a successful `run` says about the input left over, congruence of `run` under `bind`
  and `if` (to walk two programs in step), and the judgement `Pays p w`, proved by walking down the program; a program whose first
  action takes a byte (`Proofs.Fuel.IsNext`) pays at least one.
-/
import CdnsVerif.Model.Prog

namespace CdnsVerif.Model.Prog
open CdnsVerif.Spec.Cbor

theorem run_suffix {α : Type} {p : Prog α} {bs r : Bytes} {a : α} (h : p.run bs = .ok (a, r)) : ∃ pre, bs = pre ++ r := by
  induction p generalizing bs with
  | pure a' => cases h; exact ⟨[], rfl⟩
  | throw e => cases h
  | next k ih =>
    cases bs with
    | nil => cases h
    | cons b t => obtain ⟨pre, hp⟩ := ih b h; exact ⟨b :: pre, congrArg (b :: ·) hp⟩
  | peek k ih =>
    cases bs with
    | nil => cases h
    | cons b t => exact ih b h

theorem run_le {α : Type} {p : Prog α} {bs r : Bytes} {a : α} (h : p.run bs = .ok (a, r)) : r.length ≤ bs.length := by
  obtain ⟨pre, rfl⟩ := run_suffix h
  rw [List.length_append]; exact Nat.le_add_left ..

theorem bind_ok {α β : Type} {p : Prog α} {g : α → Prog β} {bs r : Bytes} {b : β} (h : (p >>= g).run bs = .ok (b, r)) :
    ∃ a r1, p.run bs = .ok (a, r1) ∧ (g a).run r1 = .ok (b, r) := by
  rw [run_bind] at h
  cases hp : p.run bs with
  | error e => rw [hp] at h; cases h
  | ok x => obtain ⟨a, r1⟩ := x; rw [hp] at h; exact ⟨a, r1, rfl, h⟩

theorem run_bind_pure {α β : Type} {p : Prog α} (f : α → β) {bs r : Bytes} {a : α} (h : p.run bs = .ok (a, r)) :
    (do let x ← p; pure (f x)).run bs = .ok (f a, r) := by
  rw [run_bind_ok h]; rfl

theorem run_bind_congr2 {α β : Type} (p q : Prog α) (f g : α → Prog β) (bs : Bytes) (hpq : p.run bs = q.run bs)
    (h : ∀ a r, p.run bs = .ok (a, r) → (f a).run r = (g a).run r) : (p >>= f).run bs = (q >>= g).run bs := by
  rw [run_bind, run_bind, ← hpq]
  cases hp : p.run bs with
  | error e => rfl
  | ok x => obtain ⟨a, r⟩ := x; exact h a r hp

theorem run_bind_congr_left {α β : Type} (p q : Prog α) (f : α → Prog β) (bs : Bytes) (h : p.run bs = q.run bs) :
    (p >>= f).run bs = (q >>= f).run bs :=
  run_bind_congr2 p q f f bs h fun _ _ _ => rfl

theorem run_ite_congr {α : Type} {c : Prop} [Decidable c] {p p' q q' : Prog α} {bs : Bytes}
    (hp : c → p.run bs = p'.run bs) (hq : ¬ c → q.run bs = q'.run bs) :
    (if c then p else q).run bs = (if c then p' else q').run bs := by
  by_cases h : c
  · rw [if_pos h, if_pos h]; exact hp h
  · rw [if_neg h, if_neg h]; exact hq h

/-- a successful run of `p` has used up at least `w a` bytes, `a` being its result -/
def Pays {α : Type} (p : Prog α) (w : α → Nat) : Prop := ∀ bs a r, p.run bs = .ok (a, r) → w a + r.length ≤ bs.length

theorem Pays.free {α : Type} (p : Prog α) : Pays p fun _ => 0 := fun _ _ _ h => by simpa using run_le h

theorem Pays.throw {α : Type} {e : Err} {w : α → Nat} : Pays (Prog.throw e) w := fun _ _ _ h => by cases h

theorem Pays.pure {α : Type} {a : α} {w : α → Nat} (h : w a = 0) : Pays (Pure.pure a : Prog α) w := fun _ _ _ hr => by
  cases hr; omega

theorem Pays.ite {α : Type} {c : Prop} [Decidable c] {p q : Prog α} {w : α → Nat} (hp : Pays p w) (hq : Pays q w) :
    Pays (if c then p else q) w := by
  split
  · exact hp
  · exact hq

/-- the first part pays `w1`, the second what is still owed (truncated subtraction: no side condition on the weights) -/
theorem Pays.bind {α β : Type} {p : Prog α} {f : α → Prog β} {w1 : α → Nat} {w : β → Nat}
    (hp : Pays p w1) (hf : ∀ a, Pays (f a) fun b => w b - w1 a) : Pays (p >>= f) w := fun bs b r h => by
  obtain ⟨a, r1, h1, h2⟩ := bind_ok h
  have := hp _ _ _ h1
  have : w b - w1 a + r.length ≤ r1.length := hf a _ _ _ h2
  omega

theorem Pays.lt {α : Type} {p : Prog α} (hp : Pays p fun _ => 1) {bs r : Bytes} {a : α} (h : p.run bs = .ok (a, r)) :
    r.length < bs.length := by
  have : 1 + r.length ≤ bs.length := hp _ _ _ h
  omega

theorem Pays.mono {α : Type} {p : Prog α} {w w' : α → Nat} (hp : Pays p w) (h : ∀ a, w' a ≤ w a) : Pays p w' :=
  fun bs a r hr => Nat.le_trans (Nat.add_le_add_right (h a) _) (hp bs a r hr)

end CdnsVerif.Model.Prog

-- in the namespace of Proofs/Fuel.lean; the decoder's readers that are `IsNext` follow in Proofs/Decoder.lean
namespace CdnsVerif.Proofs.Fuel
open CdnsVerif.Spec.Cbor CdnsVerif.Model

theorem run_bind_congr {α β : Type} (p : Prog α) (f g : α → Prog β) (bs : Bytes)
    (h : ∀ a r, p.run bs = .ok (a, r) → (f a).run r = (g a).run r) : (p >>= f).run bs = (p >>= g).run bs :=
  Prog.run_bind_congr2 p p f g bs rfl h

def IsNext {α : Type} : Prog α → Prop
  | .next _ => True
  | _ => False

theorem isNext_bind {α β : Type} {p : Prog α} (f : α → Prog β) (h : IsNext p) : IsNext (p >>= f) := by
  cases p <;> first | trivial | cases h

theorem isNext_lt {α : Type} {p : Prog α} (hp : IsNext p) {bs r : Bytes} {a : α} (h : p.run bs = .ok (a, r)) : r.length < bs.length := by
  cases p with
  | next k =>
    cases bs with
    | nil => cases h
    | cons b t => exact Nat.lt_succ_of_le (Prog.run_le (p := k b) h)
  | _ => cases hp

theorem _root_.CdnsVerif.Model.Prog.Pays.of_isNext {α : Type} {p : Prog α} (hp : IsNext p) : Prog.Pays p fun _ => 1 := fun _ _ _ h => by
  have := isNext_lt hp h
  show 1 + _ ≤ _
  omega

end CdnsVerif.Proofs.Fuel
