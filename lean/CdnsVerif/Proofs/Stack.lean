/-
  Lemmas about the output stack `Model.Stack` (C16; `Model.Exporter` of C10/C12/C13 is another model, which no theorem relates to this one).
  Below the exporter's bookkeeping (`cur`, `bw`) every piece of an API call is a sequence of `append` and `flush_buffer` that stops at the
  first exception.  `Eff` says what such a sequence does to the ghosts, to `Core` and to the failure flag, and is closed under sequencing
  (`Eff.seq`); `flush_spec`, `emit_spec`, `writeBlock_spec`, `rotate_spec` give each operation its `Eff` and what it does to the bookkeeping.
-/
import CdnsVerif.Model.Stack
namespace CdnsVerif.Model.Stack
open CdnsVerif.Spec.Cbor CdnsVerif.Model.Writer

/-- between the effects of the library: while no failure was reported for the current output, the OS has received exactly
    what was produced minus what still sits in the staging buffer; and every closed output during which nothing threw is complete -/
def Core (s : St) : Prop :=
  (s.w.failed = false → s.w.out ++ s.buf = s.given) ∧ (∀ o ∈ s.closed, o.threw = false → o.os = o.given)

/-- from `s` to `s'` by appends and flushes that were to produce `p`; `t`: an exception ended them early; `ok`: every write
    on the way is accepted.  `cur` and `bw` are left out: they change between such pieces. -/
structure Eff (ok : Prop) (s s' : St) (t : Bool) (p : Bytes) : Prop where
  /-- the ghost is set afterwards, by `step`, from `t` -/
  threw_eq : s'.threw = s.threw
  closed_eq : s'.closed = s.closed
  core : Core s → Core s'
  quiet : t = false → s'.given = s.given ++ p ∧ (s.w.failed = false → s'.w.failed = false)
  /-- once the failure of the output was reported, the data is dropped without further exceptions -/
  failed : s.w.failed = true → t = false ∧ s'.w.failed = true
  accepted : ok → s.w.failed = false → t = false

theorem Eff.refl {ok : Prop} (s : St) : Eff ok s s false [] :=
  ⟨rfl, rfl, id, fun _ => ⟨(List.append_nil _).symm, id⟩, fun h => ⟨rfl, h⟩, fun _ _ => rfl⟩

theorem Eff.seq {ok ok₁ ok₂ : Prop} {a b c : St} {t : Bool} {p q : Bytes} (h₁ : Eff ok₁ a b false p) (h₂ : Eff ok₂ b c t q)
    (hok : ok → ok₁ ∧ ok₂) : Eff ok a c t (p ++ q) where
  threw_eq := h₂.threw_eq.trans h₁.threw_eq
  closed_eq := h₂.closed_eq.trans h₁.closed_eq
  core := h₂.core ∘ h₁.core
  quiet ht := ⟨by rw [(h₂.quiet ht).1, (h₁.quiet rfl).1, List.append_assoc], fun hf => (h₂.quiet ht).2 ((h₁.quiet rfl).2 hf)⟩
  failed hf := h₂.failed (h₁.failed hf).2
  accepted o hf := h₂.accepted (hok o).2 ((h₁.quiet rfl).2 hf)

theorem Eff.mono {ok ok' : Prop} {a b : St} {t : Bool} {p : Bytes} (h : Eff ok a b t p) (hok : ok' → ok) : Eff ok' a b t p :=
  { h with accepted := fun o => h.accepted (hok o) }

/-- once it threw, what was to be produced does not matter: only `quiet` mentions `p`, and it says nothing when `t = true` -/
theorem Eff.throw {ok : Prop} {a b : St} {p q : Bytes} (h : Eff ok a b true p) : Eff ok a b true q :=
  { h with quiet := fun ht => (by cases ht) }

theorem Eff.book_left {ok : Prop} {a b : St} {t : Bool} {p : Bytes} {c : List Nat} {n : Nat}
    (h : Eff ok { a with cur := c, bw := n } b t p) : Eff ok a b t p :=
  ⟨h.threw_eq, h.closed_eq, h.core, h.quiet, h.failed, h.accepted⟩

theorem Eff.book_right {ok : Prop} {a b : St} {t : Bool} {p : Bytes} (h : Eff ok a b t p) (c : List Nat) (n : Nat) :
    Eff ok a { b with cur := c, bw := n } t p :=
  ⟨h.threw_eq, h.closed_eq, h.core, h.quiet, h.failed, h.accepted⟩

theorem Eff.append {ok : Prop} (s : St) (p : Bytes) : Eff ok s (append s p) false p :=
  ⟨rfl, rfl, fun h => ⟨fun hf => by show s.w.out ++ (s.buf ++ p) = s.given ++ p; rw [← List.append_assoc, h.1 hf], h.2⟩,
    fun _ => ⟨rfl, id⟩, fun h => ⟨rfl, h⟩, fun _ _ => rfl⟩

theorem flush_cases (s : St) (r : Resp) :
    (s.buf = [] ∧ flush s r = (s, false)) ∨
    (s.buf ≠ [] ∧ s.w.failed = true ∧ flush s r = ({ s with buf := [] }, false)) ∨
    (s.buf ≠ [] ∧ s.w.failed = false ∧ r = .ok ∧ flush s r = ({ s with w := { s.w with out := s.w.out ++ s.buf }, buf := [] }, false)) ∨
    (s.buf ≠ [] ∧ s.w.failed = false ∧ r ≠ .ok ∧ ∃ o, flush s r = ({ s with w := ⟨o, true⟩ }, true)) := by
  by_cases hb : s.buf = []
  · exact .inl ⟨hb, by simp [flush, hb]⟩
  · cases hf : s.w.failed
    · cases r
      case ok => exact .inr (.inr (.inl ⟨hb, rfl, rfl, by simp [flush, hb, BW.write, hf]⟩))
      all_goals exact .inr (.inr (.inr ⟨hb, rfl, by simp, _, by simp [flush, hb, BW.write, hf]; rfl⟩))
    · exact .inr (.inl ⟨hb, rfl, by simp [flush, hb, BW.write, hf]⟩)

theorem flush_spec (s : St) (r : Resp) :
    Eff (r = .ok) s (flush s r).1 (flush s r).2 [] ∧ ((flush s r).1.cur = s.cur ∧ (flush s r).1.bw = s.bw) ∧
    ((flush s r).2 = false → (flush s r).1.buf = []) := by
  rcases flush_cases s r with ⟨hb, e⟩ | ⟨_, hf, e⟩ | ⟨_, hf, _, e⟩ | ⟨_, hf, hr, o, e⟩ <;> rw [e]
  · exact ⟨Eff.refl s, ⟨rfl, rfl⟩, fun _ => hb⟩
  -- without an exception only `w.out` and `buf` change, and of the six clauses only `core` looks at them
  · exact ⟨{ Eff.refl s with core := fun h => ⟨fun hh => (by rw [hf] at hh; cases hh), h.2⟩ }, ⟨rfl, rfl⟩, fun _ => rfl⟩
  · exact ⟨{ Eff.refl s with core := fun h => ⟨fun _ => (by simpa using h.1 hf), h.2⟩ }, ⟨rfl, rfl⟩, fun _ => rfl⟩
  · exact ⟨⟨rfl, rfl, fun h => ⟨fun hh => (by cases hh), h.2⟩, fun h => (by cases h), fun h => (by rw [hf] at h; cases h),
      fun h => absurd h hr⟩, ⟨rfl, rfl⟩, fun h => (by cases h)⟩

theorem AllOk.tail {e : Nat × Option Resp} {c : Cuts} (h : AllOk (e :: c)) : AllOk c := (List.forall_mem_cons.1 h).2

theorem AllOk.head {n : Nat} {r : Resp} {c : Cuts} (h : AllOk ((n, some r) :: c)) : r = .ok := by
  simpa using (List.forall_mem_cons.1 h).1

theorem emit_spec (s : St) (bs : Bytes) (c : Cuts) :
    Eff (AllOk c) s (emit s bs c).1 (emit s bs c).2 bs ∧ (emit s bs c).1.cur = s.cur ∧ (emit s bs c).1.bw = s.bw := by
  induction c generalizing s bs with
  | nil => exact ⟨Eff.append s bs, rfl, rfl⟩
  | cons e rest ih =>
    obtain ⟨n, fr⟩ := e
    have hA : Eff True s (append s (bs.take n)) false (bs.take n) := Eff.append s _
    suffices Eff (AllOk ((n, fr) :: rest)) s (emit s bs ((n, fr) :: rest)).1 (emit s bs ((n, fr) :: rest)).2 (bs.take n ++ bs.drop n) ∧
        (emit s bs ((n, fr) :: rest)).1.cur = s.cur ∧ (emit s bs ((n, fr) :: rest)).1.bw = s.bw by
      rwa [List.take_append_drop] at this
    cases fr with
    | none =>
      obtain ⟨h, hb⟩ := ih (append s (bs.take n)) (bs.drop n)
      exact ⟨hA.seq h fun h => ⟨trivial, h.tail⟩, hb⟩
    | some r =>
      obtain ⟨h1, b1, -⟩ := flush_spec (append s (bs.take n)) r
      obtain ⟨h2, c2, b2⟩ := ih (flush (append s (bs.take n)) r).1 (bs.drop n)
      simp only [emit]
      cases ht : (flush (append s (bs.take n)) r).2 <;> rw [ht] at h1
      · exact ⟨hA.seq (h1.seq h2 id) fun h => ⟨trivial, h.head, h.tail⟩, c2.trans b1.1, b2.trans b1.2⟩
      · exact ⟨(hA.seq h1 fun h => ⟨trivial, h.head⟩).throw, b1⟩

theorem emit_if (c : Prop) [Decidable c] (s : St) (bs : Bytes) (cuts : Cuts) :
    Eff (AllOk cuts) s (if c then emit s bs cuts else (s, false)).1 (if c then emit s bs cuts else (s, false)).2 (if c then bs else []) ∧
    (if c then emit s bs cuts else (s, false)).1.cur = s.cur ∧ (if c then emit s bs cuts else (s, false)).1.bw = s.bw := by
  split
  · exact emit_spec s bs cuts
  · exact ⟨Eff.refl s, rfl, rfl⟩

variable (hdr : Bytes) (enc : List Nat → Bytes)

/-- what `write_block()` has to produce -/
def blockBytes (s : St) : Bytes := if s.cur = [] then [] else (if s.bw = 0 then hdr else []) ++ enc s.cur

theorem writeBlock_spec (s : St) (hc bc : Cuts) :
    Eff (AllOk hc ∧ AllOk bc) s (writeBlock hdr enc s hc bc).1 (writeBlock hdr enc s hc bc).2 (blockBytes hdr enc s) ∧
    ((writeBlock hdr enc s hc bc).2 = true → (writeBlock hdr enc s hc bc).1.cur = s.cur ∧ (writeBlock hdr enc s hc bc).1.bw = s.bw) ∧
    ((writeBlock hdr enc s hc bc).2 = false → (writeBlock hdr enc s hc bc).1.cur = [] ∧
      (writeBlock hdr enc s hc bc).1.bw = s.bw + if s.cur = [] then 0 else 1) := by
  unfold writeBlock blockBytes
  split
  · next h0 => exact ⟨Eff.refl s, fun h => (by cases h), fun _ => ⟨h0, rfl⟩⟩
  · have hA := emit_if (s.bw = 0) s hdr hc
    generalize (if s.bw = 0 then emit s hdr hc else (s, false)) = A at hA ⊢
    obtain ⟨s1, t1⟩ := A
    obtain ⟨hA, bA⟩ := hA
    cases t1
    · obtain ⟨hB, bB⟩ := emit_spec s1 (enc s.cur) bc
      have hB := hA.seq hB id
      simp only [Bool.false_eq_true, if_false]
      generalize emit s1 (enc s.cur) bc = B at hB bB ⊢
      obtain ⟨s2, t2⟩ := B
      cases t2
      · exact ⟨hB.book_right _ _, fun h => (by cases h), fun _ => ⟨rfl, by show s2.bw + 1 = _; rw [bB.2, bA.2]⟩⟩
      · exact ⟨hB, fun _ => ⟨bB.1.trans bA.1, bB.2.trans bA.2⟩, fun h => (by cases h)⟩
    · exact ⟨(hA.mono And.left).throw, fun _ => bA, fun h => (by cases h)⟩

/-- `m_cos->rotate_output(out)`, the last step of `rotate`: the current output is filed as closed, a fresh one is opened -/
def switch (s : St) : St :=
  { s with w := { out := [], failed := false }, given := [], threw := false, closed := s.closed ++ [⟨s.w.out, s.given, s.threw⟩] }

theorem switch_core {s : St} (h : Core s) (hb : s.buf = []) (hf : s.threw = false → s.w.failed = false) : Core (switch s) :=
  ⟨fun _ => by simpa [switch] using hb,
   List.forall_mem_append.2 ⟨h.2, List.forall_mem_singleton.2 fun hth => by simpa [hb] using h.1 (hf hth)⟩⟩

theorem rotate_true (s : St) (hc bc kc : Cuts) (r : Resp) :
    rotate hdr enc s true hc bc kc r =
      if (writeBlock hdr enc s hc bc).2 then ((writeBlock hdr enc s hc bc).1, true)
      else rotate hdr enc (writeBlock hdr enc s hc bc).1 false hc bc kc r := by
  simp only [rotate, if_true, Bool.false_eq_true, if_false]

/-- without export (`hc`, `bc` are not read): break if the output has a block, counter reset and flush are an `Eff` to some `s₄`; unless one
    of them threw (`t`), the outputs are then switched -/
theorem rotate_false (s : St) (hc bc kc : Cuts) (r : Resp) :
    ∃ s₄ t, Eff (AllOk kc ∧ r = .ok) s s₄ t (if s.bw > 0 then [0xff] else []) ∧
      (t = false → s₄.buf = [] ∧ s₄.bw = 0 ∧ s₄.cur = s.cur) ∧
      rotate hdr enc s false hc bc kc r = if t then (s₄, true) else (switch s₄, false) := by
  have h2 := emit_if (s.bw > 0) s [0xff] kc
  simp only [rotate, Bool.false_eq_true, if_false]
  generalize (if s.bw > 0 then emit s [0xff] kc else (s, false)) = p2 at h2 ⊢
  obtain ⟨s2, t2⟩ := p2
  obtain ⟨h2, b2, -⟩ := h2
  cases t2
  · obtain ⟨h4, b4, q4⟩ := flush_spec { s2 with bw := 0 } r
    refine ⟨_, _, by simpa using h2.seq h4.book_left id, fun ht => ⟨q4 ht, b4.2, b4.1.trans b2⟩, ?_⟩
    simp only [Bool.false_eq_true, if_false]
    cases (flush { s2 with bw := 0 } r).2 <;> rfl
  · exact ⟨s2, true, (h2.mono And.left).throw, fun h => (by cases h), rfl⟩

/-- what a rotation has to produce: the block if asked for, and the break if the output then has a block -/
def rotBytes (s : St) : Bool → Bytes
  | false => if s.bw > 0 then [0xff] else []
  | true => blockBytes hdr enc s ++ if s.bw + (if s.cur = [] then 0 else 1) > 0 then [0xff] else []

theorem rotate_spec (s : St) (exp : Bool) (hc bc kc : Cuts) (r : Resp) :
    ∃ s' t, Eff (AllOk hc ∧ AllOk bc ∧ AllOk kc ∧ r = .ok) s s' t (rotBytes hdr enc s exp) ∧
      (t = false → s'.buf = [] ∧ s'.bw = 0 ∧ s'.cur = if exp then [] else s.cur) ∧
      rotate hdr enc s exp hc bc kc r = if t then (s', true) else (switch s', false) := by
  cases exp
  · obtain ⟨s₄, t, h, hq⟩ := rotate_false hdr enc s hc bc kc r
    exact ⟨s₄, t, h.mono fun o => o.2.2, hq⟩
  · obtain ⟨h1, -, b1⟩ := writeBlock_spec hdr enc s hc bc
    rw [rotate_true]
    cases ht : (writeBlock hdr enc s hc bc).2 <;> rw [ht] at h1
    · obtain ⟨s₄, t, h, hq, e⟩ := rotate_false hdr enc (writeBlock hdr enc s hc bc).1 hc bc kc r
      refine ⟨s₄, t, ?_, fun h => ⟨(hq h).1, (hq h).2.1, (hq h).2.2.trans (b1 ht).1⟩, by simpa using e⟩
      rw [(b1 ht).2] at h
      exact h1.seq h fun o => ⟨⟨o.1, o.2.1⟩, o.2.2⟩
    · exact ⟨_, true, (h1.mono fun o => ⟨o.1, o.2.1⟩).throw, fun h => (by cases h), rfl⟩

theorem step_closed_prefix (s : St) (op : Op) : s.closed <+: (step hdr enc s op).1.closed := by
  cases op with
  | buffer r => exact List.prefix_rfl
  | bufferW r hc bc => exact (writeBlock_spec hdr enc { s with cur := s.cur ++ [r] } hc bc).1.closed_eq ▸ List.prefix_rfl
  | writeBlock hc bc => exact (writeBlock_spec hdr enc s hc bc).1.closed_eq ▸ List.prefix_rfl
  | rotate exp hc bc kc r =>
    obtain ⟨s', t, h, _, e⟩ := rotate_spec hdr enc s exp hc bc kc r
    simp only [step, e]
    cases t
    · exact h.closed_eq ▸ List.prefix_append _ _
    · exact h.closed_eq ▸ List.prefix_rfl

theorem run_closed_prefix (ops : List Op) : ∀ s, s.closed <+: (run hdr enc s ops).1.closed := by
  induction ops with
  | nil => exact fun _ => List.prefix_rfl
  | cons op ops ih => exact fun s => (step_closed_prefix hdr enc s op).trans (ih _)

theorem run_append (ops1 ops2 : List Op) (s : St) :
    (run hdr enc s (ops1 ++ ops2)).1 = (run hdr enc (run hdr enc s ops1).1 ops2).1 := by
  induction ops1 generalizing s with
  | nil => rfl
  | cons op ops ih => exact ih _

end CdnsVerif.Model.Stack
