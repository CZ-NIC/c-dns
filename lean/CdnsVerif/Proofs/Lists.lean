/-
  Facts about lists that core does not have and several parts of the development use: an invariant rule for `List.foldl` that is indexed
  by the part consumed (`foldl_inv`), `Nodup` of a list extended or split (`nodup_concat`, `not_mem_of_nodup_append_cons`), `map_map_id`,
  `exists_of_map_eq_map`.
-/
namespace CdnsVerif

/-- The invariant is indexed by the part of the list consumed so far, so it can speak of what has been processed
    without an accumulator of its own. -/
theorem foldl_inv {β γ : Type} (step : β → γ → β) (I : List γ → β → Prop) (l : List γ) (acc : β) (h0 : I [] acc)
    (hs : ∀ done x acc, x ∈ l → I done acc → I (done ++ [x]) (step acc x)) : I l (l.foldl step acc) := by
  suffices ∀ (rest done : List γ) (acc : β), done ++ rest = l → I done acc → I l (rest.foldl step acc) from this l [] acc rfl h0
  intro rest
  induction rest with
  | nil => intro done acc e h; rw [← e, List.append_nil]; exact h
  | cons x rest ih =>
    intro done acc e h
    exact ih (done ++ [x]) _ (by rw [← e]; simp) (hs done x acc (by rw [← e]; simp) h)

/-- with `List.forall_mem_cons`: a statement about every member of a literal list, as a conjunction -/
theorem forall_mem_nil_iff {α : Type} {p : α → Prop} : (∀ x ∈ ([] : List α), p x) ↔ True :=
  ⟨fun _ => trivial, fun _ => List.forall_mem_nil _⟩

theorem map_map_id {α β : Type} {f : α → β} {g : β → α} (h : ∀ x, g (f x) = x) (l : List α) : (l.map f).map g = l := by
  rw [List.map_map]; exact List.map_id'' h l

theorem exists_of_map_eq_map {α β γ : Type} {f : α → γ} {g : β → γ} {l : List α} {xs : List β} (h : l.map f = xs.map g) {x : β} (hx : x ∈ xs) :
    ∃ w ∈ l, f w = g x :=
  List.exists_of_mem_map (h ▸ List.mem_map_of_mem hx)

theorem nodup_concat {α : Type} {l : List α} {x : α} (h : l.Nodup) (hx : x ∉ l) : (l ++ [x]).Nodup :=
  (List.perm_append_singleton x l).nodup_iff.2 (List.nodup_cons.2 ⟨hx, h⟩)

theorem not_mem_of_nodup_append_cons {α : Type} {l r : List α} {x : α} (h : (l ++ x :: r).Nodup) : x ∉ l :=
  fun hm => (List.nodup_append.1 h).2.2 x hm x List.mem_cons_self rfl

end CdnsVerif
