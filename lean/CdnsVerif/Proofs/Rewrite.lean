/-
  What a struct reads of a map depends on the members only through their effects (`effect`: decoded key and, for a key the
  schema knows, the denotation of the value) and, among members with different keys, not on their order: a struct observes
  the members read only through the lookup `look` (`denote_map`), and setting two different keys commutes under it
  (`denotePairs_perm`).  Props/C08.lean draws from this that the rewrites RFC 8949/8618 regard as "the same data" – unknown
  members, permutation of map members, rewriting inside nested members – do not change the denotation `denote`.
-/
import CdnsVerif.Model.Schema

namespace CdnsVerif.Model.Schema
open CdnsVerif.Spec.Cbor

theorem intOf_uint_width (w w' : Width) (n : Nat) : intOf (.uint w n) = intOf (.uint w' n) := rfl
theorem intOf_nint_width (w w' : Width) (n : Nat) : intOf (.nint w n) = intOf (.nint w' n) := rfl

inductive AllRel {α β : Type} (r : α → β → Prop) : List α → List β → Prop
  | nil : AllRel r [] []
  | cons {a b l l'} : r a b → AllRel r l l' → AllRel r (a :: l) (b :: l')

theorem denoteList_congr (k : Kind) (items items' : List Item)
    (h : AllRel (fun i i' => denote k i = denote k i') items items') : denoteList k items = denoteList k items' := by
  induction h with
  | nil => rfl
  | cons h1 _ ih => simp only [denoteList, h1, ih]

/-- the flat key₁, value₁, key₂, value₂, … list of `Item.map` -/
def flat : List (Item × Item) → List Item
  | [] => []
  | p :: ps => p.1 :: p.2 :: flat ps

theorem flat_length (ps : List (Item × Item)) : (flat ps).length = 2 * ps.length := by
  induction ps with
  | nil => rfl
  | cons p ps ih => simp only [flat, List.length_cons, ih]; omega

/-- what one member does to the struct being filled: `none` – the reader throws; `some none` –
    ignored (unknown key); `some (some (key, v))` – member `key` is set to `v` -/
def effect (fs : List Field) (p : Item × Item) : Option (Option (Int × Val)) :=
  match intOf p.1 with
  | none => none
  | some key =>
    match fs.find? (fun f => f.key == key) with
    | some f =>
      match denote f.kind p.2 with
      | some v => some (some (key, v))
      | none => none
    | none => some none

def applyEffect (acc : List (Int × Val)) : Option (Int × Val) → List (Int × Val)
  | none => acc
  | some (key, v) => setKey acc key v

theorem denotePairs_flat_cons (fs : List Field) (p : Item × Item) (ps : List (Item × Item)) (acc : List (Int × Val)) :
    denotePairs fs (flat (p :: ps)) acc = (effect fs p).bind fun e => denotePairs fs (flat ps) (applyEffect acc e) := by
  simp only [flat, denotePairs, effect]
  cases intOf p.1 with
  | none => rfl
  | some key =>
    simp only
    cases fs.find? (fun f => f.key == key) with
    | none => rfl
    | some f =>
      simp only
      cases denote f.kind p.2 <;> rfl

/-- the member a key finds: all a struct can observe of a member list (`canon`, the required-member check) -/
def look (ms : List (Int × Val)) (key : Int) : Option (Int × Val) := ms.find? (·.1 == key)

theorem look_setKey (acc : List (Int × Val)) (key : Int) (v : Val) :
    look (setKey acc key v) = fun κ => if κ = key then some (key, v) else look acc κ := by
  funext κ
  unfold setKey look
  rw [← List.isSome_find?]
  cases hl : acc.find? (fun e => e.1 == key) with
  | none =>
    by_cases hκ : κ = key
    · subst hκ; simp [hl]
    · have : ¬ key = κ := fun e => hκ e.symm
      simp [hκ, this]
  | some e =>
    -- replacing the value of `key` leaves every first component as it is
    have hF : ((fun x : Int × Val => x.1 == κ) ∘ fun e => if e.1 == key then (key, v) else e) = fun e => e.1 == κ := by
      funext e
      by_cases h : e.1 = key <;> simp [h]
    rw [Option.isSome_some, if_pos rfl, List.find?_map, hF]
    by_cases hκ : κ = key
    · subst hκ
      rw [hl, if_pos rfl, Option.map_some, if_pos (List.find?_some hl)]
    · rw [if_neg hκ]
      cases hf : acc.find? (fun e => e.1 == κ) with
      | none => rfl
      | some e' =>
        have hκ' : e'.1 = κ := by simpa using List.find?_some hf
        have : ¬ e'.1 = key := fun h => hκ (hκ'.symm.trans h)
        simp [this]

theorem denotePairs_look (fs : List Field) (ps : List (Item × Item)) {a b : List (Int × Val)} (h : look a = look b) :
    (denotePairs fs (flat ps) a).map look = (denotePairs fs (flat ps) b).map look := by
  induction ps generalizing a b with
  | nil => rw [flat, denotePairs, denotePairs, Option.map_some, Option.map_some, h]
  | cons p ps ih =>
    rw [denotePairs_flat_cons, denotePairs_flat_cons]
    cases effect fs p with
    | none => rfl
    | some e =>
      refine ih ?_
      cases e with
      | none => exact h
      | some kv => rw [applyEffect, applyEffect, look_setKey, look_setKey, h]

def keyOfPair (p : Item × Item) : Option Int := intOf p.1

theorem effect_key (fs : List Field) (p : Item × Item) (k : Int) (v : Val) (h : effect fs p = some (some (k, v))) :
    keyOfPair p = some k := by
  unfold effect at h
  split at h
  · cases h
  · rename_i key hk
    split at h
    · split at h
      · cases h; exact hk
      · cases h
    · cases h

theorem denotePairs_swap (fs : List Field) (x y : Item × Item) (l : List (Item × Item)) (hxy : keyOfPair x ≠ keyOfPair y)
    (a : List (Int × Val)) :
    (denotePairs fs (flat (y :: x :: l)) a).map look = (denotePairs fs (flat (x :: y :: l)) a).map look := by
  simp only [denotePairs_flat_cons]
  cases hx : effect fs x with
  | none => cases effect fs y <;> rfl
  | some ex =>
    cases hy : effect fs y with
    | none => rfl
    | some ey =>
      refine denotePairs_look fs l ?_
      -- an ignored member changes nothing; two that are set have different keys
      cases ex with
      | none => rfl
      | some kx =>
        cases ey with
        | none => rfl
        | some ky =>
          have hne : ky.1 ≠ kx.1 := fun e => hxy (by rw [effect_key fs x kx.1 kx.2 hx, effect_key fs y ky.1 ky.2 hy, e])
          simp only [applyEffect, look_setKey]
          funext κ
          by_cases h1 : κ = kx.1
          · subst h1; rw [if_neg hne.symm, if_pos rfl, if_neg hne.symm]
          · simp only [if_neg h1]

theorem denotePairs_perm (fs : List Field) (ps ps' : List (Item × Item)) (hp : ps.Perm ps')
    (hnd : (ps.map keyOfPair).Nodup) (a : List (Int × Val)) :
    (denotePairs fs (flat ps) a).map look = (denotePairs fs (flat ps') a).map look := by
  induction hp generalizing a with
  | nil => rfl
  | cons x _ ih =>
    rw [denotePairs_flat_cons, denotePairs_flat_cons]
    cases effect fs x with
    | none => rfl
    | some e =>
      simp only [List.map_cons, List.nodup_cons] at hnd
      exact ih hnd.2 _
  | swap x y l =>
    simp only [List.map_cons, List.nodup_cons, List.mem_cons, not_or] at hnd
    exact denotePairs_swap fs x y l (fun e => hnd.1.1 e.symm) a
  | trans h1 _ ih1 ih2 => exact (ih1 hnd a).trans (ih2 ((h1.map keyOfPair).nodup_iff.1 hnd) a)

/-- the value of a struct from what is observed of its members -/
def recordOf (fs : List Field) (g : Int → Option (Int × Val)) : Option Val :=
  if fs.all (fun f => !f.required || (g f.key).isSome) then some (.record (fs.filterMap fun f => g f.key)) else none

theorem denote_map (fs : List Field) (w : Width) (items : List Item) :
    denote (.struct fs) (.map w items) = ((denotePairs fs items []).map look).bind (recordOf fs) := by
  simp only [denote]
  cases denotePairs fs items [] with
  | none => rfl
  | some ms => simp only [Option.map_some, Option.bind_some, recordOf, look, List.isSome_find?]; rfl

theorem denotePairs_unknown (fs : List Field) (pre post : List (Item × Item)) (kI vI : Item) (key : Int)
    (hk : intOf kI = some key) (hun : fs.find? (fun f => f.key == key) = none) (acc : List (Int × Val)) :
    denotePairs fs (flat (pre ++ (kI, vI) :: post)) acc = denotePairs fs (flat (pre ++ post)) acc := by
  induction pre generalizing acc with
  | nil => simp only [List.nil_append, flat, denotePairs, hk, hun]
  | cons p pre ih =>
    rw [List.cons_append, List.cons_append, denotePairs_flat_cons, denotePairs_flat_cons]
    cases effect fs p with
    | none => rfl
    | some e => exact ih _

theorem effect_congr {fs : List Field} {p p' : Item × Item} (hk : intOf p.1 = intOf p'.1)
    (hv : ∀ key f, intOf p.1 = some key → fs.find? (fun f => f.key == key) = some f → denote f.kind p.2 = denote f.kind p'.2) :
    effect fs p = effect fs p' := by
  unfold effect
  rw [← hk]
  cases hkk : intOf p.1 with
  | none => rfl
  | some key =>
    simp only
    cases hf : fs.find? (fun f => f.key == key) with
    | none => rfl
    | some f => simp only [hv key f hkk hf]

theorem denotePairs_congr {fs : List Field} {r : Item × Item → Item × Item → Prop} (hr : ∀ p p', r p p' → effect fs p = effect fs p')
    {ps ps' : List (Item × Item)} (h : AllRel r ps ps') (acc : List (Int × Val)) :
    denotePairs fs (flat ps) acc = denotePairs fs (flat ps') acc := by
  induction h generalizing acc with
  | nil => rfl
  | cons hpp _ ih =>
    rw [denotePairs_flat_cons, denotePairs_flat_cons, hr _ _ hpp]
    cases effect fs _ with
    | none => rfl
    | some e => exact ih _

end CdnsVerif.Model.Schema
