/-
  Time members of the blocks built by `Model.Builder`.  `timeView` is what the small time model of Props/C17.lean
  (`Timestamp.BlockTime`) sees of a block; every `addRec` is a `stepTime` on it or leaves it alone (`addRec_view`).  So every block
  built satisfies `C17.TimeInv` (its earliest time is not later than any stored record time), and every time it holds is one a
  record carried or the initial zero, so in range when those are (`timeInv_build`); hence every stored offset is non-negative and
  the reader recovers every record time exactly (`times_recovered_build`).
-/
import CdnsVerif.Proofs.Tables
import CdnsVerif.Props.C17

namespace CdnsVerif.Model.Builder
open CdnsVerif.Generated CdnsVerif.Model.Timestamp CdnsVerif.Props

def timeView (b : Blk) : BlockTime := { earliest := b.earliest, qrs := b.qrs.map (·.ts), mms := b.mms.map (·.ts) }

theorem mem_times {b : Blk} {t : Ts} : t ∈ (timeView b).times ↔ (∃ q ∈ b.qrs, q.ts = some t) ∨ ∃ m ∈ b.mms, m.ts = some t := by
  simp only [BlockTime.times, timeView, List.filterMap_append, List.filterMap_map, List.mem_append, List.mem_filterMap, Function.comp, id]

theorem updEarliest_view (b : Blk) (ts : Option Ts) : updEarliest b ts = Timestamp.updEarliest (timeView b) ts := by
  unfold updEarliest Timestamp.updEarliest timeView
  cases ts with
  | none => rfl
  | some t => simp only [List.isEmpty_map]

theorem setStats_view (b : Blk) (st : Option Stats) : timeView (setStats b st) = timeView b := by
  cases st <;> rfl

theorem Grows.view {b b' : Blk} (h : Grows b b') : timeView b' = timeView b := by
  unfold timeView; rw [h.qrs, h.mms, h.earliest]

theorem push_qr_view (b : Blk) (q : QRec) : timeView { b with qrs := b.qrs ++ [q] } = { timeView b with qrs := (timeView b).qrs ++ [q.ts] } := by
  unfold timeView; simp only [List.map_append, List.map_cons, List.map_nil]
theorem push_mm_view (b : Blk) (m : MMRec) : timeView { b with mms := b.mms ++ [m] } = { timeView b with mms := (timeView b).mms ++ [m.ts] } := by
  unfold timeView; simp only [List.map_append, List.map_cons, List.map_nil]

theorem QRec.filled_of_ts {q : QRec} (h : q.ts.isSome = true) : q.filled = true := by
  simp only [QRec.filled, h, Bool.true_or]

theorem addQR_view (h : Hints) (g : GQR) (st : Option Stats) (b : Blk) :
    timeView (addQR h g st b) = stepTime (timeView b)
      (.qr g.ts (on h.qrh QueryResponseHintsMask.time_offset) (buildQ h g { b with earliest := updEarliest b g.ts }).2.filled) := by
  have hv := (grows_buildQ h g { b with earliest := updEarliest b g.ts }).view
  -- a stored time makes the record filled
  have hor : ((if on h.qrh QueryResponseHintsMask.time_offset = true then g.ts else none).isSome ||
      (buildQ h g { b with earliest := updEarliest b g.ts }).2.filled) = (buildQ h g { b with earliest := updEarliest b g.ts }).2.filled := by
    cases hs : (if on h.qrh QueryResponseHintsMask.time_offset = true then g.ts else none).isSome
    · rfl
    · exact (QRec.filled_of_ts (q := (buildQ h g { b with earliest := updEarliest b g.ts }).2) hs).symm
  rw [addQR_eq, setStats_view]
  unfold stepTime
  simp only
  rw [← updEarliest_view, hor]
  split
  · rw [push_qr_view, hv]; rfl
  · exact hv

/-- whether `add_malformed_message` stores an item (any member present) -/
def mmStored (h : Hints) (g : GMM) (st : Option Stats) (b : Blk) : Bool :=
  (addMM h g st b).mms.length != b.mms.length

theorem addMM_view (h : Hints) (g : GMM) (st : Option Stats) (b : Blk) :
    ∃ other, timeView (addMM h g st b) = stepTime (timeView b) (.mm g.ts (on h.odh OtherDataHintsMask.malformed_messages) other) := by
  cases hon : on h.odh OtherDataHintsMask.malformed_messages
  · exact ⟨false, by rw [addMM_off h g st b hon, setStats_view]; rfl⟩
  · obtain ⟨b1, cai, mdi, hg, _, e⟩ := addMM_spec h g st b hon
    have hv : timeView b1 = { timeView b with earliest := Timestamp.updEarliest (timeView b) g.ts } := by
      rw [hg.view, ← setStats_view b st, ← updEarliest_view]; rfl
    refine ⟨cai.isSome || g.clientPort.isSome || mdi.isSome, ?_⟩
    rw [e]
    unfold stepTime
    simp only [Bool.not_true, Bool.false_eq_true, if_false, ← Bool.or_assoc]
    split
    · rw [push_mm_view, hv]
    · exact hv

theorem addAEC_view (h : Hints) (g : GAEC) (st : Option Stats) (b : Blk) : timeView (addAEC h g st b) = timeView b := by
  cases hon : on h.odh OtherDataHintsMask.address_event_counts
  · rw [addAEC_off h g st b hon]; exact setStats_view b st
  · rw [addAEC_on h g st b hon]; exact ((grows_add .ip (setStats b st) g.ip).view).trans (setStats_view b st)

def Rec.ts : Rec → Option Ts
  | .qr g _ => g.ts
  | .aec _ _ => none
  | .mm g _ => g.ts

theorem addRec_view (h : Hints) (b : Blk) (r : Rec) :
    timeView (addRec h b r) = timeView b ∨ ∃ op, C17.opTs op = r.ts ∧ timeView (addRec h b r) = stepTime (timeView b) op := by
  cases r with
  | qr g st => exact .inr ⟨_, rfl, addQR_view h g st b⟩
  | aec g st => exact .inl (addAEC_view h g st b)
  | mm g st => obtain ⟨o, ho⟩ := addMM_view h g st b; exact .inr ⟨_, rfl, ho⟩

def AllP (P : Ts → Prop) (b : BlockTime) : Prop := P b.earliest ∧ ∀ t ∈ b.times, P t

-- about `timeView b` and not any `BlockTime`: `updEarliest_cases` of Proofs/Tables.lean speaks of the builder's `updEarliest`
theorem step_allP (P : Ts → Prop) (h0 : P ⟨0, 0⟩) (b : Blk) (hb : AllP P (timeView b)) (op : TimeOp) (hop : ∀ t, C17.opTs op = some t → P t) :
    AllP P (stepTime (timeView b) op) := by
  rcases C17.stepTime_shape (timeView b) op with h | h | ⟨he, ht⟩
  · rw [h]; exact ⟨h0, List.forall_mem_nil _⟩
  · rw [h]; exact hb
  · refine ⟨?_, fun t hm => (ht t hm).elim (hb.2 t) (hop t)⟩
    rw [he, ← updEarliest_view]
    exact (updEarliest_cases b _).elim (fun e => e ▸ hb.1) (hop _)

theorem timeInv_build (P : Ts → Prop) (h0 : P ⟨0, 0⟩) (h : Hints) (recs : List Rec) (hrecs : ∀ r ∈ recs, ∀ t, r.ts = some t → P t) :
    C17.TimeInv (timeView (build h recs)) ∧ AllP P (timeView (build h recs)) := by
  refine build_ind h (fun _ b => C17.TimeInv (timeView b) ∧ AllP P (timeView b)) recs
    ⟨List.forall_mem_nil _, h0, List.forall_mem_nil _⟩ fun _ r b hr hb => ?_
  rcases addRec_view h b r with e | ⟨op, hop, e⟩ <;> rw [e]
  · exact hb
  · exact ⟨C17.step_inv _ hb.1 op, step_allP P h0 b hb.2 op (fun t ht => hrecs r hr t (hop ▸ ht))⟩

theorem offset_written (t e : Ts) (r : Nat) (hr : 1 ≤ r) (ht : C17.InRange t r) (he : C17.InRange e r)
    (htn : t.ticks < r) (hen : e.ticks < r) (hle : lt t e = false) :
    ∃ n, offsetOf t e r = some n ∧ n < two63 ∧ addTimeOffset e (toI64 n) r = .ok t := by
  obtain ⟨d, hd, hoff, hadd⟩ := C17.offsets_nonneg_and_recovered t e r hr ht he htn hen hle
  have hT : C17.inst t r < two63 := ht
  have hd' : d = (C17.inst t r : Int) - C17.inst e r := by
    have := C17.offset_exact t e r hr ht he; rw [hoff] at this; cases this; rfl
  refine ⟨ofI64 d, by simp only [offsetOf, hoff], ?_, by rw [C17.toI64_ofI64 d (by omega) (by omega)]; exact hadd⟩
  obtain ⟨N, rfl⟩ := Int.eq_ofNat_of_zero_le hd
  rw [C17.ofI64_nat N (by unfold two63 two64 at *; omega)]; omega

theorem times_recovered_build (h : Hints) (recs : List Rec) (r : Nat) (hr : 1 ≤ r)
    (hrecs : ∀ rec ∈ recs, ∀ t, rec.ts = some t → C17.InRange t r ∧ t.ticks < r) :
    ∀ t ∈ (timeView (build h recs)).times,
      ∃ n, offsetOf t (build h recs).earliest r = some n ∧ n < two63 ∧ addTimeOffset (build h recs).earliest (toI64 n) r = .ok t := by
  intro t ht
  have hinv := timeInv_build (fun t => C17.InRange t r ∧ t.ticks < r)
    ⟨by show (0 * r + 0 : Nat) < two63; unfold two63; omega, by show (0 : Nat) < r; omega⟩ h recs hrecs
  have hle := hinv.1 t ht
  have hP := hinv.2
  exact offset_written t (build h recs).earliest r hr (hP.2 t ht).1 hP.1.1 (hP.2 t ht).2 hP.1.2 hle

end CdnsVerif.Model.Builder
