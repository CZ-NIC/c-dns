/-
  What the model writers emit denotes the value written: `denote k (toItem k v) = some v` for every conforming value
  (`denote_toItem`).  Since the reader computes `denote` (Proofs/Denote.lean) this gives the round trip, and it lets the
  file-level theorems talk about the exporter's real layout (indefinite block array).
-/
import CdnsVerif.Proofs.Lists
import CdnsVerif.Proofs.Schema

namespace CdnsVerif.Model.Schema
open CdnsVerif.Spec.Cbor

theorem denote_int64 (i : Item) : denote .int64 i = (intOf i).map .num := by cases i <;> rfl

mutual
theorem denote_toItem : ∀ (k : Kind) (v : Val), Conforms k v → denote k (toItem k v) = some v
  | .uint bits, .num x, hc => by
    simp only [toItem, denote]
    rw [Nat.mod_eq_of_lt (toNat_lt_of_conforms hc.1 hc.2.1), Int.toNat_of_nonneg hc.1]
  | .int64, .num x, hc => by
    rw [toItem, denote_int64, intOf_intItem x hc]
    rfl
  | .tstr, .str b, _ | .bstr, .str b, _ => rfl
  | .bool, .bool b, _ => by cases b <;> rfl
  | .arr ek, .list vs, hc => by
    simp only [toItem, denote, denoteList_toItems ek vs hc.2, Option.map_some]
  | .struct fs, .record ms, hc => by
    obtain ⟨_, hcp, hnd, hreq, hfnd, hsub⟩ := hc
    have := denotePairs_toPairs fs ms [] hcp (by simpa using hnd)
    simp only [List.nil_append] at this
    simp only [toItem, denote, this, hreq, if_true, canon_id fs ms hfnd hsub]
theorem denoteList_toItems : ∀ (k : Kind) (vs : List Val), ConformsList k vs → denoteList k (toItems k vs) = some vs
  | _, [], _ => rfl
  | k, v :: vs, hc => by simp only [toItems, denoteList, denote_toItem k v hc.1, denoteList_toItems k vs hc.2]
theorem denotePairs_toPairs : ∀ (fs : List Field) (ms acc : List (Int × Val)), ConformsPairs fs ms →
    (acc.map (·.1) ++ ms.map (·.1)).Nodup → denotePairs fs (toPairs fs ms) acc = some (acc ++ ms)
  | _, [], acc, _, _ => by simp [toPairs, denotePairs]
  | fs, (key, v) :: ms, acc, hc, hnd => by
    obtain ⟨hk, ⟨f, hf, hcv⟩, hrest⟩ := hc
    unfold toPairs
    simp only [denotePairs, intOf_intItem key hk, hf, denote_toItem f.kind v hcv]
    rw [setKey_new acc key v (not_mem_of_nodup_append_cons hnd),
      denotePairs_toPairs fs ms _ hrest (by simpa [List.map_append, List.append_assoc] using hnd)]
    simp
end

end CdnsVerif.Model.Schema
