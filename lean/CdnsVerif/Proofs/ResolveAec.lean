/-
  Address-event counts: for every generic key, the total count stored in the block built equals the number of
  times the key was buffered (`aecInv_build`, field `counts` of the invariant `AecInv`).  The property theorem is in Props/C01.lean.
-/
import CdnsVerif.Proofs.Resolve

namespace CdnsVerif.Model.Builder
open CdnsVerif.Generated

/-- `cnt k` is how often the generic key `k` has been counted so far (`timesBuffered` of the records added, in `aecInv_build`).
    `keysNodup`, one entry per stored key as in the C++ hash map, is what makes a `bump` add exactly 1 to a total (`sum_bump`). -/
structure AecInv (b : Blk) (cnt : GAEC → Nat) : Prop where
  inRange : ∀ e ∈ b.aecs, e.1.ai < b.ip.length
  keysNodup : (b.aecs.map (·.1)).Nodup
  counts : ∀ k, countFor b k = cnt k

theorem resolveA_ext {b b' : Blk} (he : LExt b.ip b'.ip) (a : AEC) (hr : a.ai < b.ip.length) : resolveA b' a = resolveA b a := by
  unfold resolveA
  rw [List.getElem?_eq_getElem hr, he _ _ (List.getElem?_eq_getElem hr)]

theorem countFor_congr {b b' : Blk} (ha : b'.aecs = b.aecs) (hr : ∀ e ∈ b.aecs, resolveA b' e.1 = resolveA b e.1) (k : GAEC) :
    countFor b' k = countFor b k := by
  unfold countFor
  rw [ha]
  congr 2
  apply List.filter_congr
  intro e he
  rw [hr e he]

/-- `inRange` is what makes the stored keys resolve as before when the tables grow -/
theorem aecInv_ext {b b' : Blk} {cnt : GAEC → Nat} (hi : AecInv b cnt) (he : Ext b b') (ha : b'.aecs = b.aecs) : AecInv b' cnt := by
  refine ⟨?_, by rw [ha]; exact hi.keysNodup, ?_⟩
  · intro e hem; rw [ha] at hem
    exact (List.getElem?_eq_some_iff.1 (he.ip _ _ (List.getElem?_eq_getElem (hi.inRange e hem)))).1
  · intro k
    rw [countFor_congr ha (fun e hem => resolveA_ext he.ip e.1 (hi.inRange e hem)) k]
    exact hi.counts k

/-- one more under every entry with key `A`: the total over the keys in `P` rises by the number of those entries, if `A` is in `P` -/
theorem sum_incr (l : List (AEC × Nat)) (A : AEC) (P : AEC → Bool) :
    (((l.map fun e => if e.1 == A then (e.1, e.2 + 1) else e).filter fun e => P e.1).map (·.2)).sum =
      ((l.filter fun e => P e.1).map (·.2)).sum + (if P A then (l.map (·.1)).count A else 0) := by
  induction l with
  | nil => cases P A <;> rfl
  | cons e l ih =>
    simp only [List.map_cons, List.filter_cons, List.count_cons]
    by_cases hk : e.1 = A
    · subst hk
      cases hp : P e.1 <;> simp only [hp, beq_self_eq_true, if_true, if_false, Bool.false_eq_true, List.map_cons, List.sum_cons] at ih ⊢
      · exact ih
      · rw [ih]; ac_rfl
    · have hb : (e.1 == A) = false := beq_false_of_ne hk
      cases hp : P e.1 <;> simp only [hp, hb, if_true, if_false, Bool.false_eq_true, List.map_cons, List.sum_cons, Nat.add_zero]
      · exact ih
      · rw [ih]; ac_rfl

theorem sum_bump (l : List (AEC × Nat)) (a : AEC) (P : AEC → Bool) (hnd : (l.map (·.1)).Nodup) :
    (((bump a l).filter fun e => P e.1).map (·.2)).sum = ((l.filter fun e => P e.1).map (·.2)).sum + (if P a then 1 else 0) := by
  unfold bump
  split
  · next hany =>
    obtain ⟨e, he, heq⟩ := List.any_eq_true.1 hany
    have hm : a ∈ l.map (·.1) := beq_iff_eq.1 heq ▸ List.mem_map_of_mem he
    rw [sum_incr, hnd.count, if_pos hm]
  · rw [List.filter_append, List.map_append, List.sum_append]
    cases hp : P a <;> simp [hp]

theorem resolveA_key {b : Blk} {g : GAEC} {i : Nat} (hi : b.ip[i]? = some g.ip) : resolveA b (aecKey g i) = some g := by
  unfold resolveA aecKey; rw [hi]; rfl

theorem aecInv_bump {b : Blk} {cnt : GAEC → Nat} (hi : AecInv b cnt) {A : AEC} {g : GAEC} (hA : resolveA b A = some g) :
    AecInv { b with aecs := bump A b.aecs } (fun k => cnt k + (if g = k then 1 else 0)) := by
  refine ⟨fun e he => ?_, ?_, fun k => ?_⟩
  · rcases mem_bump he with ⟨e', he', hk, _⟩ | rfl
    · rw [hk]; exact hi.inRange e' he'
    · obtain ⟨_, hl, _⟩ := Option.map_eq_some_iff.1 hA
      exact (List.getElem?_eq_some_iff.1 hl).1
  · show ((bump A b.aecs).map (·.1)).Nodup
    rw [keys_bump]
    split
    · exact hi.keysNodup
    · next hnot => exact nodup_concat hi.keysNodup hnot
  · have hc := hi.counts k
    unfold countFor at hc ⊢
    show (((bump A b.aecs).filter fun e => decide (resolveA b e.1 = some k)).map (·.2)).sum = _
    rw [sum_bump b.aecs A (fun a => decide (resolveA b a = some k)) hi.keysNodup, hc, hA]
    by_cases hgk : g = k <;> simp [hgk]

theorem timesBuffered_snoc (h : Hints) (done : List Rec) (r : Rec) (k : GAEC) :
    timesBuffered h (done ++ [r]) k = timesBuffered h done k + (match r with
      | .aec g _ => if on h.odh OtherDataHintsMask.address_event_counts = true ∧ g = k then 1 else 0
      | _ => 0) := by
  unfold timesBuffered
  by_cases hon : on h.odh OtherDataHintsMask.address_event_counts = true
  · simp only [hon, if_true, true_and, List.filter_append, List.length_append]
    cases r with
    | aec g st => by_cases hgk : g = k <;> simp [hgk]
    | _ => rfl
  · simp only [hon]
    cases r <;> rfl

theorem aecInv_build (h : Hints) (recs : List Rec) : AecInv (build h recs) (timesBuffered h recs) := by
  refine build_ind h (fun done b => AecInv b (timesBuffered h done)) recs ⟨nofun, List.nodup_nil, fun k => ?_⟩ fun done r b _ hi => ?_
  · unfold timesBuffered; split <;> rfl
  · rw [show timesBuffered h (done ++ [r]) = fun k => _ from funext (timesBuffered_snoc h done r)]
    cases r with
    | qr g st => exact aecInv_ext hi (ext_addQR h g st b).1 (ext_addQR h g st b).2.1
    | mm g st => exact aecInv_ext hi (ext_addMM h g st b).1 (ext_addMM h g st b).2.2
    | aec g st =>
      have hi0 := aecInv_ext hi (ext_setStats b st) (setStats_recs b st).2.1
      cases hon : on h.odh OtherDataHintsMask.address_event_counts
      · simp only [addRec, addAEC_off h g st b hon, Bool.false_eq_true, false_and, if_false, Nat.add_zero]
        exact hi0
      · simp only [addRec, addAEC_on h g st b hon, true_and]
        exact aecInv_bump (aecInv_ext hi0 (grows_add .ip _ g.ip).ext rfl) (resolveA_key (getElem?_add .ip (setStats b st) g.ip))

theorem aec_nodup (h : Hints) (recs : List Rec) : (build h recs).aecs.Nodup :=
  (aecInv_build h recs).keysNodup.of_map _ fun _ _ hne e => hne (congrArg _ e)

end CdnsVerif.Model.Builder
