/-
  Storage hints are honoured by everything the block-building model `Model.Builder` stores: `Honours h b`, proved of every
  built block in `honours_build` (the property theorems are in Props/C04.lean).  The invariant carried through `build` is `Hon`:
  `Honours` with its table part as an `AllT (HonP h)`, so that every `add` keeps it (`Hon.kept`) and the table steps of a record
  need no argument of their own; what remains is that the record filled honours the hints (`buildQ_honours`).
-/
import CdnsVerif.Proofs.Tables

namespace CdnsVerif.Model.Builder
open CdnsVerif.Spec.Cbor CdnsVerif.Generated

def SigHonours (h : Hints) (s : Sig) : Prop :=
  (s.sai.isSome → on h.sigh QueryResponseSignatureHintsMask.server_address_index = true) ∧
  (s.port.isSome → on h.sigh QueryResponseSignatureHintsMask.server_port = true) ∧
  (s.tf.isSome → on h.sigh QueryResponseSignatureHintsMask.qr_transport_flags = true) ∧
  (s.qt.isSome → on h.sigh QueryResponseSignatureHintsMask.qr_type = true) ∧
  (s.sf.isSome → on h.sigh QueryResponseSignatureHintsMask.qr_sig_flags = true) ∧
  (s.op.isSome → on h.sigh QueryResponseSignatureHintsMask.query_opcode = true) ∧
  (s.df.isSome → on h.sigh QueryResponseSignatureHintsMask.qr_dns_flags = true) ∧
  (s.qrc.isSome → on h.sigh QueryResponseSignatureHintsMask.query_rcode = true) ∧
  (s.cti.isSome → on h.sigh QueryResponseSignatureHintsMask.query_classtype_index = true) ∧
  (s.qd.isSome → on h.sigh QueryResponseSignatureHintsMask.query_qdcount = true) ∧
  (s.an.isSome → on h.sigh QueryResponseSignatureHintsMask.query_ancount = true) ∧
  (s.ns.isSome → on h.sigh QueryResponseSignatureHintsMask.query_nscount = true) ∧
  (s.ar.isSome → on h.sigh QueryResponseSignatureHintsMask.query_arcount = true) ∧
  (s.ev.isSome → on h.sigh QueryResponseSignatureHintsMask.query_edns_version = true) ∧
  (s.us.isSome → on h.sigh QueryResponseSignatureHintsMask.query_udp_size = true) ∧
  (s.ordi.isSome → on h.sigh QueryResponseSignatureHintsMask.query_opt_rdata_index = true) ∧
  (s.rrc.isSome → on h.sigh QueryResponseSignatureHintsMask.response_rcode = true)

def RrHonours (h : Hints) (r : RRe) : Prop :=
  (r.ttl.isSome → on h.rrh RrHintsMask.ttl = true) ∧ (r.rdata.isSome → on h.rrh RrHintsMask.rdata_index = true)

def QHonours (h : Hints) (q : QRec) : Prop :=
  (q.ts.isSome → on h.qrh QueryResponseHintsMask.time_offset = true) ∧
  (q.cai.isSome → on h.qrh QueryResponseHintsMask.client_address_index = true) ∧
  (q.cport.isSome → on h.qrh QueryResponseHintsMask.client_port = true) ∧
  (q.tid.isSome → on h.qrh QueryResponseHintsMask.transaction_id = true) ∧
  (q.sig.isSome → on h.qrh QueryResponseHintsMask.qr_signature_index = true) ∧
  (q.hl.isSome → on h.qrh QueryResponseHintsMask.client_hoplimit = true) ∧
  (q.rd.isSome → on h.qrh QueryResponseHintsMask.response_delay = true) ∧
  (q.qn.isSome → on h.qrh QueryResponseHintsMask.query_name_index = true) ∧
  (q.qs.isSome → on h.qrh QueryResponseHintsMask.query_size = true) ∧
  (q.rs.isSome → on h.qrh QueryResponseHintsMask.response_size = true) ∧
  (q.rpd.isSome → on h.qrh QueryResponseHintsMask.response_processing_data = true) ∧
  (∀ e, q.qx = some e →
    (e.q.isSome → on h.qrh QueryResponseHintsMask.query_question_sections = true) ∧
    (e.an.isSome → on h.qrh QueryResponseHintsMask.query_answer_sections = true) ∧
    (e.au.isSome → on h.qrh QueryResponseHintsMask.query_authority_sections = true) ∧
    (e.ad.isSome → on h.qrh QueryResponseHintsMask.query_additional_sections = true)) ∧
  (∀ e, q.rx = some e →
    (e.q.isSome → on h.qrh QueryResponseHintsMask.query_question_sections = true) ∧
    (e.an.isSome → on h.qrh QueryResponseHintsMask.response_answer_sections = true) ∧
    (e.au.isSome → on h.qrh QueryResponseHintsMask.response_authority_sections = true) ∧
    (e.ad.isSome → on h.qrh QueryResponseHintsMask.response_additional_sections = true))

def Honours (h : Hints) (b : Blk) : Prop :=
  (∀ q ∈ b.qrs, QHonours h q) ∧ (∀ s ∈ b.sig, SigHonours h s) ∧ (∀ r ∈ b.rr, RrHonours h r) ∧
  (on h.odh OtherDataHintsMask.address_event_counts = false → b.aecs = []) ∧
  (on h.odh OtherDataHintsMask.malformed_messages = false → b.mms = [] ∧ b.mmd = [])

/-- what the hint invariant asks of a table entry: signatures and RRs honour the hints; message data exists only under its hint -/
def HonP (h : Hints) : (t : Tid) → Elt t → Prop
  | .sig, s => SigHonours h s
  | .rr, r => RrHonours h r
  | .mmd, _ => on h.odh OtherDataHintsMask.malformed_messages = true
  | .ip, _ => True | .ct, _ => True | .nr, _ => True | .ql, _ => True | .qrr, _ => True | .rl, _ => True

theorem honP_qins (h : Hints) (g : GQR) : QIns (HonP h) h g :=
  have sec : ∀ o, SecIns (HonP h) h o := fun _ =>
    ⟨fun _ _ _ _ => ⟨trivial, trivial, fun _ _ => trivial, fun _ => trivial, fun _ _ _ hk => ⟨keep_isSome, hk⟩⟩,
     fun _ _ _ _ => trivial, fun _ _ _ _ => trivial⟩
  ⟨fun _ _ => trivial, fun _ _ => trivial, fun _ _ => trivial, fun _ _ => trivial, fun _ _ => trivial, fun _ _ => trivial,
   -- the members of `mkSig`, in its order: the three indexes by hypothesis, the others through `keep`
   fun _ _ _ ha hc ho => ⟨ha, keep_isSome, keep_isSome, keep_isSome, keep_isSome, keep_isSome, keep_isSome, keep_isSome, hc, keep_isSome,
     keep_isSome, keep_isSome, keep_isSome, keep_isSome, keep_isSome, ho, keep_isSome⟩,
   sec _, sec _, sec _, sec _, sec _, sec _, sec _, sec _⟩

/-- `Honours` with its table part entry by entry (no message data while malformed messages are off says the same as `mmd = []`) -/
structure Hon (h : Hints) (b : Blk) : Prop where
  qrs : ∀ q ∈ b.qrs, QHonours h q
  tbl : AllT (HonP h) b
  aecs : on h.odh OtherDataHintsMask.address_event_counts = false → b.aecs = []
  mms : on h.odh OtherDataHintsMask.malformed_messages = false → b.mms = []

theorem Hon.honours {h : Hints} {b : Blk} (hb : Hon h b) : Honours h b :=
  ⟨hb.qrs, hb.tbl .sig, hb.tbl .rr, hb.aecs, fun hoff =>
    ⟨hb.mms hoff, List.eq_nil_iff_forall_not_mem.2 fun d hd => nomatch hoff.symm.trans (hb.tbl .mmd d hd)⟩⟩

theorem buildSig_isSome (h : Hints) (g : GQR) (b : Blk) (hx : (buildSig h g b).2.isSome = true) :
    on h.qrh QueryResponseHintsMask.qr_signature_index = true := by
  unfold buildSig at hx
  split at hx
  · simp at hx
  · rename_i hc; simpa using hc

theorem buildQ_honours (h : Hints) (g : GQR) (b : Blk) : QHonours h (buildQ h g b).2 := by
  unfold buildQ
  simp only
  refine ⟨keep_isSome, addOpt_isSome, keep_isSome, keep_isSome, buildSig_isSome h g _, keep_isSome, keep_isSome, addOpt_isSome,
    keep_isSome, keep_isSome, fun hx => ?_, fun e he => ?_, fun e he => ?_⟩
  · split at hx
    · rename_i hc
      simp only [Bool.or_eq_true] at hc
      exact hc.elim addOpt_isSome keep_isSome
    · simp at hx
  all_goals
    obtain ⟨_, rfl⟩ := Option.ite_some_none_eq_some.1 he
    exact ⟨addSection_isSome, addSection_isSome, addSection_isSome, addSection_isSome⟩

theorem hon_setStats {h : Hints} {b : Blk} (st : Option Stats) (hb : Hon h b) : Hon h (setStats b st) := by
  cases st
  · exact hb
  · exact ⟨hb.qrs, hb.tbl.of_tbl_eq (tbl_setStats b _), hb.aecs, hb.mms⟩

theorem hon_earliest {h : Hints} {b : Blk} (e : Timestamp.Ts) (hb : Hon h b) : Hon h { b with earliest := e } :=
  ⟨hb.qrs, hb.tbl.of_tbl_eq (tbl_earliest b e), hb.aecs, hb.mms⟩

theorem Hon.kept (h : Hints) : Kept (Hon h) (HonP h) := fun t x b hx hb =>
  have hg := grows_add t b x
  ⟨hg.qrs ▸ hb.qrs, hb.tbl.ins hx, hg.aecs ▸ hb.aecs, hg.mms ▸ hb.mms⟩

theorem hon_addRec (h : Hints) (b : Blk) (r : Rec) (hb : Hon h b) : Hon h (addRec h b r) := by
  cases r with
  | qr g st =>
    have h1 := (Hon.kept h).buildQ (honP_qins h g) (hon_earliest (updEarliest b g.ts) hb)
    simp only [addRec, addQR_eq]
    refine hon_setStats st ?_
    split
    · exact { h1 with qrs := List.forall_mem_append.2 ⟨h1.qrs, List.forall_mem_singleton.2 (buildQ_honours h g _)⟩,
                      tbl := h1.tbl.of_tbl_eq (tbl_qrs _ _) }
    · exact h1
  | aec g st =>
    have h0 := hon_setStats st hb
    cases hon : on h.odh OtherDataHintsMask.address_event_counts
    · simp only [addRec, addAEC_off h g st b hon]; exact h0
    · simp only [addRec, addAEC_on h g st b hon]
      exact { h0 with tbl := (h0.tbl.ins (t := .ip) trivial).of_tbl_eq (tbl_aecs _ _), aecs := fun hoff => nomatch hon.symm.trans hoff }
  | mm g st =>
    have h0 := hon_setStats st hb
    cases hon : on h.odh OtherDataHintsMask.malformed_messages
    · simp only [addRec, addMM_off h g st b hon]; exact h0
    · obtain ⟨b1, cai, mdi, _, ha, e⟩ := addMM_spec h g st b hon
      have h1 := ha (Hon.kept h) ⟨fun _ _ => trivial, fun _ _ => trivial, fun _ => hon⟩ (hon_earliest _ h0)
      simp only [addRec, e]
      split
      · exact { h1 with tbl := h1.tbl.of_tbl_eq (tbl_mms _ _), mms := fun hoff => nomatch hon.symm.trans hoff }
      · exact h1

theorem hon_empty (h : Hints) : Hon h {} := by
  refine ⟨fun _ hx => ?_, fun t _ hx => ?_, fun _ => rfl, fun _ => rfl⟩
  · cases hx
  · cases t <;> cases hx

theorem honours_build (h : Hints) (recs : List Rec) : Honours h (build h recs) :=
  (build_ind h (fun _ b => Hon h b) recs (hon_empty h) fun _ r b _ hb => hon_addRec h b r hb).honours

section frames
variable (b : Blk)
@[simp] theorem addIp_sig (x : Bytes) : (addIp b x).1.sig = b.sig := rfl
@[simp] theorem addIp_rr (x : Bytes) : (addIp b x).1.rr = b.rr := rfl
@[simp] theorem addIp_qrs (x : Bytes) : (addIp b x).1.qrs = b.qrs := rfl
@[simp] theorem addIp_aecs (x : Bytes) : (addIp b x).1.aecs = b.aecs := rfl
@[simp] theorem addIp_mms (x : Bytes) : (addIp b x).1.mms = b.mms := rfl
@[simp] theorem addIp_mmd (x : Bytes) : (addIp b x).1.mmd = b.mmd := rfl
@[simp] theorem addCt_sig (x : Nat × Nat) : (addCt b x).1.sig = b.sig := rfl
@[simp] theorem addCt_rr (x : Nat × Nat) : (addCt b x).1.rr = b.rr := rfl
@[simp] theorem addCt_qrs (x : Nat × Nat) : (addCt b x).1.qrs = b.qrs := rfl
@[simp] theorem addCt_aecs (x : Nat × Nat) : (addCt b x).1.aecs = b.aecs := rfl
@[simp] theorem addCt_mms (x : Nat × Nat) : (addCt b x).1.mms = b.mms := rfl
@[simp] theorem addCt_mmd (x : Nat × Nat) : (addCt b x).1.mmd = b.mmd := rfl
@[simp] theorem addNr_sig (x : Bytes) : (addNr b x).1.sig = b.sig := rfl
@[simp] theorem addNr_rr (x : Bytes) : (addNr b x).1.rr = b.rr := rfl
@[simp] theorem addNr_qrs (x : Bytes) : (addNr b x).1.qrs = b.qrs := rfl
@[simp] theorem addNr_aecs (x : Bytes) : (addNr b x).1.aecs = b.aecs := rfl
@[simp] theorem addNr_mms (x : Bytes) : (addNr b x).1.mms = b.mms := rfl
@[simp] theorem addNr_mmd (x : Bytes) : (addNr b x).1.mmd = b.mmd := rfl
@[simp] theorem addSig_rr (x : Sig) : (addSig b x).1.rr = b.rr := rfl
@[simp] theorem addSig_qrs (x : Sig) : (addSig b x).1.qrs = b.qrs := rfl
@[simp] theorem addSig_aecs (x : Sig) : (addSig b x).1.aecs = b.aecs := rfl
@[simp] theorem addSig_mms (x : Sig) : (addSig b x).1.mms = b.mms := rfl
@[simp] theorem addSig_mmd (x : Sig) : (addSig b x).1.mmd = b.mmd := rfl
@[simp] theorem addQl_sig (x : List Nat) : (addQl b x).1.sig = b.sig := rfl
@[simp] theorem addQl_rr (x : List Nat) : (addQl b x).1.rr = b.rr := rfl
@[simp] theorem addQl_qrs (x : List Nat) : (addQl b x).1.qrs = b.qrs := rfl
@[simp] theorem addQl_aecs (x : List Nat) : (addQl b x).1.aecs = b.aecs := rfl
@[simp] theorem addQl_mms (x : List Nat) : (addQl b x).1.mms = b.mms := rfl
@[simp] theorem addQl_mmd (x : List Nat) : (addQl b x).1.mmd = b.mmd := rfl
@[simp] theorem addQrr_sig (x : Nat × Nat) : (addQrr b x).1.sig = b.sig := rfl
@[simp] theorem addQrr_rr (x : Nat × Nat) : (addQrr b x).1.rr = b.rr := rfl
@[simp] theorem addQrr_qrs (x : Nat × Nat) : (addQrr b x).1.qrs = b.qrs := rfl
@[simp] theorem addQrr_aecs (x : Nat × Nat) : (addQrr b x).1.aecs = b.aecs := rfl
@[simp] theorem addQrr_mms (x : Nat × Nat) : (addQrr b x).1.mms = b.mms := rfl
@[simp] theorem addQrr_mmd (x : Nat × Nat) : (addQrr b x).1.mmd = b.mmd := rfl
@[simp] theorem addRl_sig (x : List Nat) : (addRl b x).1.sig = b.sig := rfl
@[simp] theorem addRl_rr (x : List Nat) : (addRl b x).1.rr = b.rr := rfl
@[simp] theorem addRl_qrs (x : List Nat) : (addRl b x).1.qrs = b.qrs := rfl
@[simp] theorem addRl_aecs (x : List Nat) : (addRl b x).1.aecs = b.aecs := rfl
@[simp] theorem addRl_mms (x : List Nat) : (addRl b x).1.mms = b.mms := rfl
@[simp] theorem addRl_mmd (x : List Nat) : (addRl b x).1.mmd = b.mmd := rfl
@[simp] theorem addRr_sig (x : RRe) : (addRr b x).1.sig = b.sig := rfl
@[simp] theorem addRr_qrs (x : RRe) : (addRr b x).1.qrs = b.qrs := rfl
@[simp] theorem addRr_aecs (x : RRe) : (addRr b x).1.aecs = b.aecs := rfl
@[simp] theorem addRr_mms (x : RRe) : (addRr b x).1.mms = b.mms := rfl
@[simp] theorem addRr_mmd (x : RRe) : (addRr b x).1.mmd = b.mmd := rfl
@[simp] theorem addMmd_sig (x : MMD) : (addMmd b x).1.sig = b.sig := rfl
@[simp] theorem addMmd_rr (x : MMD) : (addMmd b x).1.rr = b.rr := rfl
@[simp] theorem addMmd_qrs (x : MMD) : (addMmd b x).1.qrs = b.qrs := rfl
@[simp] theorem addMmd_aecs (x : MMD) : (addMmd b x).1.aecs = b.aecs := rfl
@[simp] theorem addMmd_mms (x : MMD) : (addMmd b x).1.mms = b.mms := rfl
end frames

end CdnsVerif.Model.Builder
