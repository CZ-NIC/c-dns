/-
  The executable check `conformsB` (Model/Schema.lean) is sound for `Conforms` (`conforms_of_conformsB`), so that concrete values –
  and every value the driver reads from a library-written file – can be shown to lie in the domain of the round-trip theorems.
-/
import CdnsVerif.Proofs.Schema

namespace CdnsVerif.Model.Schema

mutual
theorem conforms_of_conformsB : ∀ (k : Kind) (v : Val), conformsB k v = true → Conforms k v
  | .uint bits, .num n, hb => by
    simp only [conformsB, Bool.and_eq_true, decide_eq_true_eq] at hb
    exact ⟨hb.1.1, hb.1.2, hb.2⟩
  | .int64, .num n, hb => by
    simp only [conformsB, Bool.and_eq_true, decide_eq_true_eq] at hb
    exact hb
  | .tstr, .str b, hb | .bstr, .str b, hb => by
    simp only [conformsB, Bool.and_eq_true, decide_eq_true_eq] at hb
    exact ⟨hb.1, fun x hx => of_decide_eq_true (List.all_eq_true.1 hb.2 x hx)⟩
  | .bool, .bool _, _ => trivial
  | .arr ek, .list vs, hb => by
    simp only [conformsB, Bool.and_eq_true, decide_eq_true_eq] at hb
    exact ⟨hb.1, conformsList_of_conformsListB ek vs hb.2⟩
  | .struct fs, .record ms, hb => by
    simp only [conformsB, Bool.and_eq_true, decide_eq_true_eq] at hb
    obtain ⟨⟨⟨⟨⟨h1, h2⟩, h3⟩, h4⟩, h5⟩, h6⟩ := hb
    exact ⟨h1, conformsPairs_of_conformsPairsB fs ms h2, h3, h4, h5, h6⟩
theorem conformsList_of_conformsListB : ∀ (k : Kind) (vs : List Val), conformsListB k vs = true → ConformsList k vs
  | _, [], _ => trivial
  | k, v :: vs, hb => by
    simp only [conformsListB, Bool.and_eq_true] at hb
    exact ⟨conforms_of_conformsB k v hb.1, conformsList_of_conformsListB k vs hb.2⟩
theorem conformsPairs_of_conformsPairsB : ∀ (fs : List Field) (ms : List (Int × Val)), conformsPairsB fs ms = true → ConformsPairs fs ms
  | _, [], _ => trivial
  | fs, (key, v) :: ms, hb => by
    simp only [conformsPairsB, Bool.and_eq_true, decide_eq_true_eq] at hb
    obtain ⟨⟨⟨hk1, hk2⟩, hf⟩, hrest⟩ := hb
    refine ⟨⟨hk1, hk2⟩, ?_, conformsPairs_of_conformsPairsB fs ms hrest⟩
    cases hfind : fs.find? (fun f => f.key == key) with
    | none => simp [hfind] at hf
    | some f => rw [hfind] at hf; exact ⟨f, rfl, conforms_of_conformsB f.kind v hf⟩
end

end CdnsVerif.Model.Schema
