/-
  Generated obligation tying the code's map keys and hint bits (regenerated from src/format_specification.h by the translator on
  every run) to the RFC 8618 transcription in `Spec.Cdns.rfcKeys` (`generated_keys_eq_rfc`, `generated_private_keys`).  A key or mask bit
  changed in the source – even symmetrically in writer and reader, which no round trip through the library can notice – breaks this.
  `hint_bits_distinct`: within each of the four hint masks no value occurs twice.
-/
import CdnsVerif.Spec.Cdns
import CdnsVerif.Generated.Constants
namespace CdnsVerif.Proofs.Keys
open CdnsVerif.Spec.Cdns

def genLookup (enum key : String) : Option Int :=
  match Generated.enumTable.find? (·.1 == enum) with
  | some (_, _, _, es) => (es.find? (·.1 == key)).map (·.2)
  | none => none

def keysAgree : Bool :=
  rfcKeys.all fun (enum, es) => es.all fun (k, v) => genLookup enum k == some v

def privateAgree : Bool :=
  privateQrKeys.all fun (k, v) => genLookup "QueryResponseMapIndex" k == some v

theorem generated_keys_eq_rfc : keysAgree = true := by decide +kernel

theorem generated_private_keys : privateAgree = true := by decide +kernel

/-- hint bits are pairwise distinct single bits (needed for "one bit governs one member") -/
def maskOk (enum : String) : Bool :=
  match Generated.enumTable.find? (·.1 == enum) with
  | some (_, _, _, es) => (es.map (·.2)).eraseDups.length == es.length
  | none => false

theorem hint_bits_distinct :
    (maskOk "QueryResponseHintsMask" && maskOk "QueryResponseSignatureHintsMask" && maskOk "RrHintsMask"
      && maskOk "OtherDataHintsMask") = true := by decide +kernel

end CdnsVerif.Proofs.Keys
