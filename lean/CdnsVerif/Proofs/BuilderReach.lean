/-
  Every block built by `Model.Builder` is referentially closed and has no unreachable table entry (`Closed`, `Reach`: `inv_build`).
  While a record is being added, the indexes its table steps have returned are stored nowhere yet.  The invariant carried
  through the steps therefore counts the references still held by the caller as stored (`Rooted b R`); a step is described by the
  references it hands out (`HandsOut`), and storing a table entry, or at last the record (`rooted_addRec`), discharges those it holds.
-/
import CdnsVerif.Proofs.Tables

namespace CdnsVerif.Model.Builder
open CdnsVerif.Spec.Cbor CdnsVerif.Generated

abbrev Ref := Tid × Nat

def oref (t : Tid) (o : Option Nat) : List Ref := match o with | some i => [(t, i)] | none => []

def sigRefs (s : Sig) : List Ref := oref .ip s.sai ++ oref .ct s.cti ++ oref .nr s.ordi
def qrrRefs (p : Nat × Nat) : List Ref := [(.nr, p.1), (.ct, p.2)]
def qlRefs (l : List Nat) : List Ref := l.map fun i => (.qrr, i)
def rlRefs (l : List Nat) : List Ref := l.map fun i => (.rr, i)
def rrRefs (r : RRe) : List Ref := [(.nr, r.name), (.ct, r.ct)] ++ oref .nr r.rdata
def mmdRefs (d : MMD) : List Ref := oref .ip d.sai
def qreRefs (e : Option QRE) : List Ref :=
  match e with
  | some e => oref .ql e.q ++ oref .rl e.an ++ oref .rl e.au ++ oref .rl e.ad
  | none => []
def qRefs (q : QRec) : List Ref :=
  oref .ip q.cai ++ oref .sig q.sig ++ oref .nr q.qn ++ (match q.rpd with | some r => oref .nr r.bw | none => []) ++
  qreRefs q.qx ++ qreRefs q.rx
def aecRefs (a : AEC × Nat) : List Ref := [(.ip, a.1.ai)]
def mmRefs (m : MMRec) : List Ref := oref .ip m.cai ++ oref .mmd m.mdi

def allRefs (b : Blk) : List Ref :=
  b.sig.flatMap sigRefs ++ b.qrr.flatMap qrrRefs ++ b.qlist.flatMap qlRefs ++ b.rrlist.flatMap rlRefs ++ b.rr.flatMap rrRefs ++
  b.mmd.flatMap mmdRefs ++ b.qrs.flatMap qRefs ++ b.aecs.flatMap aecRefs ++ b.mms.flatMap mmRefs

/-- every stored index addresses an existing table entry -/
def Closed (b : Blk) : Prop := ∀ r ∈ allRefs b, r.2 < len b r.1
/-- every table entry is referred to -/
def Reach (b : Blk) : Prop := ∀ t j, j < len b t → (t, j) ∈ allRefs b

/-- the references `rs` address existing entries of `b`; `Closed b` is `InB b (allRefs b)` -/
def InB (b : Blk) (rs : List Ref) : Prop := ∀ r ∈ rs, r.2 < len b r.1

theorem inB_append {b : Blk} {l₁ l₂ : List Ref} : InB b (l₁ ++ l₂) ↔ InB b l₁ ∧ InB b l₂ := List.forall_mem_append
theorem inB_cons {b : Blk} {t : Tid} {i : Nat} {l : List Ref} : InB b ((t, i) :: l) ↔ i < len b t ∧ InB b l := List.forall_mem_cons
theorem inB_nil {b : Blk} : InB b [] ↔ True := forall_mem_nil_iff
theorem inB_map {b : Blk} {t : Tid} {l : List Nat} : InB b (l.map fun i => (t, i)) ↔ ∀ i ∈ l, i < len b t := List.forall_mem_map

theorem forall_mem_oref {t : Tid} {o : Option Nat} {P : Ref → Prop} : (∀ r ∈ oref t o, P r) ↔ ∀ n, o = some n → P (t, n) := by
  cases o <;> simp [oref]

theorem oref_closed {b : Blk} {t : Tid} {o : Option Nat} (h : ∀ i, o = some i → i < len b t) : ∀ r ∈ oref t o, r.2 < len b r.1 :=
  forall_mem_oref.2 h

def eltRefs : (t : Tid) → Elt t → List Ref
  | .sig, s => sigRefs s | .qrr, p => qrrRefs p | .ql, l => qlRefs l | .rl, l => rlRefs l | .rr, r => rrRefs r | .mmd, d => mmdRefs d
  | .ip, _ => [] | .ct, _ => [] | .nr, _ => []

theorem Tid.exists_iff {P : Tid → Prop} :
    (∃ t, P t) ↔ P .sig ∨ P .qrr ∨ P .ql ∨ P .rl ∨ P .rr ∨ P .mmd ∨ P .ip ∨ P .ct ∨ P .nr :=
  ⟨fun ⟨t, h⟩ => by cases t <;> simp only [h, true_or, or_true], by rintro (h | h | h | h | h | h | h | h | h) <;> exact ⟨_, h⟩⟩

theorem mem_allRefs {b : Blk} {r : Ref} : r ∈ allRefs b ↔
    (∃ t, ∃ x ∈ tbl t b, r ∈ eltRefs t x) ∨ (∃ q ∈ b.qrs, r ∈ qRefs q) ∨ (∃ a ∈ b.aecs, r ∈ aecRefs a) ∨ (∃ m ∈ b.mms, r ∈ mmRefs m) := by
  -- `Tid.exists_iff` lists the tables in the order of `allRefs`
  simp only [allRefs, List.mem_append, List.mem_flatMap, Tid.exists_iff, tbl, eltRefs, List.not_mem_nil, and_false, exists_false,
    or_false, or_assoc]

theorem Closed.tbl {b : Blk} (h : Closed b) (t : Tid) : ∀ x ∈ tbl t b, InB b (eltRefs t x) :=
  fun x hx r hr => h r (mem_allRefs.2 (.inl ⟨t, x, hx, hr⟩))
theorem Closed.qrs {b : Blk} (h : Closed b) : ∀ q ∈ b.qrs, InB b (qRefs q) :=
  fun q hq r hr => h r (mem_allRefs.2 (.inr (.inl ⟨q, hq, hr⟩)))
theorem Closed.aecs {b : Blk} (h : Closed b) : ∀ a ∈ b.aecs, InB b (aecRefs a) :=
  fun a ha r hr => h r (mem_allRefs.2 (.inr (.inr (.inl ⟨a, ha, hr⟩))))
theorem Closed.mms {b : Blk} (h : Closed b) : ∀ m ∈ b.mms, InB b (mmRefs m) :=
  fun m hm r hr => h r (mem_allRefs.2 (.inr (.inr (.inr ⟨m, hm, hr⟩))))

theorem mem_allRefs_add {t : Tid} {b : Blk} {x : Elt t} {r : Ref} : r ∈ allRefs (add t b x).1 ↔ r ∈ allRefs b ∨ r ∈ eltRefs t x := by
  have g := grows_add t b x
  simp only [mem_allRefs, g.qrs, g.aecs, g.mms, mem_tbl_add]
  constructor
  · rintro (⟨t', y, hy | ⟨rfl, rfl⟩, hr⟩ | h)
    · exact .inl (.inl ⟨t', y, hy, hr⟩)
    · exact .inr hr
    · exact .inl (.inr h)
  · rintro ((⟨t', y, hy, hr⟩ | h) | hr)
    · exact .inl ⟨t', y, .inl hy, hr⟩
    · exact .inr h
    · exact .inl ⟨t, x, .inr ⟨rfl, rfl⟩, hr⟩

theorem lt_len_add {t : Tid} {b : Blk} {x : Elt t} {r : Ref} :
    r.2 < len (add t b x).1 r.1 ↔ r.2 < len b r.1 ∨ r = (t, (add t b x).2) := by
  obtain ⟨t', j⟩ := r
  have hi : (add t b x).2 < len (add t b x).1 t := len_eq _ t ▸ (List.getElem?_eq_some_iff.1 (getElem?_add t b x)).1
  have hle : len b t' ≤ len (add t b x).1 t' := by rw [len_eq, len_eq]; exact ((grows_add t b x).tbl t').length_le
  refine ⟨fun hj => ?_, fun h => h.elim (Nat.lt_of_lt_of_le · hle) fun e => by cases e; exact hi⟩
  rw [len_eq] at hj
  by_cases e : t' = t
  · subst e
    rw [tbl_add_self] at hj
    exact (lt_addDedup hj).imp (len_eq b _ ▸ ·) (congrArg (Prod.mk t'))
  · exact .inl (len_eq b t' ▸ tbl_add_ne e b x ▸ hj)

/-- Closed and reachable when the references `R`, which some caller still holds, count as stored: the references stored or
    held are exactly the indexes of the entries there are. -/
def Rooted (b : Blk) (R : List Ref) : Prop := ∀ r : Ref, r ∈ allRefs b ∨ r ∈ R ↔ r.2 < len b r.1

theorem Rooted.closed_reach {b : Blk} (h : Rooted b []) : Closed b ∧ Reach b :=
  ⟨fun r hr => (h r).1 (.inl hr), fun t j hj => ((h (t, j)).2 hj).resolve_right List.not_mem_nil⟩

theorem Rooted.congr {b b' : Blk} {R R' : List Ref} (h : Rooted b R) (hlen : ∀ t, len b' t = len b t)
    (hset : ∀ r, r ∈ allRefs b' ∨ r ∈ R' ↔ r ∈ allRefs b ∨ r ∈ R) : Rooted b' R' :=
  fun r => (hset r).trans (hlen r.1 ▸ h r)

/-- Storing an entry that holds (some of) the references held so far discharges them: in their place the entry's index is held. -/
theorem Rooted.store {b : Blk} {R : List Ref} (t : Tid) (x : Elt t) (h : Rooted b (R ++ eltRefs t x)) :
    Rooted (add t b x).1 (R ++ [(t, (add t b x).2)]) := fun r => by
  rw [lt_len_add, ← h r]
  simp only [mem_allRefs_add, List.mem_append, List.mem_singleton]
  rw [or_or_or_comm, ← or_assoc, or_assoc (c := r ∈ eltRefs t x)]

/-- What a builder step guarantees: whatever references `F` its caller held before, the block is rooted in `F` and the
    references `R` handed out by the step afterwards. -/
def HandsOut (b b' : Blk) (R : List Ref) : Prop := ∀ F, Rooted b F → Rooted b' (F ++ R)

theorem HandsOut.refl (b : Blk) : HandsOut b b [] := fun F h => (List.append_nil F).symm ▸ h

theorem HandsOut.trans {a b c : Blk} {R1 R2 : List Ref} (h1 : HandsOut a b R1) (h2 : HandsOut b c R2) : HandsOut a c (R1 ++ R2) :=
  fun F h => List.append_assoc F R1 R2 ▸ h2 _ (h1 F h)

theorem HandsOut.store {b b1 : Blk} (t : Tid) (x : Elt t) (hs : HandsOut b b1 (eltRefs t x)) : HandsOut b (add t b1 x).1 [(t, (add t b1 x).2)] :=
  fun F h => Rooted.store t x (hs F h)

theorem handsOut_addIp (b : Blk) (x : Bytes) : HandsOut b (addIp b x).1 [(.ip, (addIp b x).2)] := HandsOut.store .ip x (.refl b)
theorem handsOut_addCt (b : Blk) (x : Nat × Nat) : HandsOut b (addCt b x).1 [(.ct, (addCt b x).2)] := HandsOut.store .ct x (.refl b)
theorem handsOut_addNr (b : Blk) (x : Bytes) : HandsOut b (addNr b x).1 [(.nr, (addNr b x).2)] := HandsOut.store .nr x (.refl b)

theorem handsOut_addOpt (t : Tid) (c : Bool) (o : Option α) (add : Blk → α → Blk × Nat) (b : Blk)
    (hadd : ∀ b x, HandsOut b (add b x).1 [(t, (add b x).2)]) : HandsOut b (addOpt c o add b).1 (oref t (addOpt c o add b).2) :=
  addOpt_elim (motive := fun r _ => HandsOut b r.1 (oref t r.2)) c o add b (.refl b) (hadd b)

theorem handsOut_addSection (t : Tid) (c : Bool) (o : Option (List GRR)) (add : Blk → List GRR → Blk × Nat) (b : Blk)
    (hadd : ∀ b x, HandsOut b (add b x).1 [(t, (add b x).2)]) : HandsOut b (addSection c o add b).1 (oref t (addSection c o add b).2) :=
  addSection_elim (motive := fun r => HandsOut b r.1 (oref t r.2)) c o add b (.refl b) fun l _ _ => hadd b l

theorem handsOut_fold (step : Blk × List Nat → GRR → Blk × List Nat) (t : Tid)
    (hs : ∀ acc g, ∃ i, (step acc g).2 = acc.2 ++ [i] ∧ HandsOut acc.1 (step acc g).1 [(t, i)]) (gs : List GRR) (b : Blk) :
    HandsOut b (gs.foldl step (b, [])).1 ((gs.foldl step (b, [])).2.map fun i => (t, i)) :=
  foldl_inv step (fun _ a => HandsOut b a.1 (a.2.map fun i => (t, i))) gs (b, []) (.refl b) fun _ g a _ ha => by
    obtain ⟨i, h2, hsp⟩ := hs a g
    rw [h2, List.map_append]; exact ha.trans hsp

theorem handsOut_addGenericQlist (b : Blk) (g : List GRR) : HandsOut b (addGenericQlist b g).1 [(.ql, (addGenericQlist b g).2)] :=
  HandsOut.store .ql _ (handsOut_fold qlStep .qrr (fun acc g => ⟨_, rfl,
    HandsOut.store .qrr _ ((handsOut_addNr acc.1 g.name).trans (handsOut_addCt _ (g.type, g.cls)))⟩) g b)

theorem handsOut_addGenericRrlist (h : Hints) (b : Blk) (g : List GRR) :
    HandsOut b (addGenericRrlist h b g).1 [(.rl, (addGenericRrlist h b g).2)] :=
  HandsOut.store .rl _ (handsOut_fold (rrStep h) .rr (fun acc g => ⟨_, rfl,
    HandsOut.store .rr _ (((handsOut_addNr acc.1 g.name).trans (handsOut_addCt _ (g.type, g.cls))).trans
      (handsOut_addOpt .nr (on h.rrh RrHintsMask.rdata_index) g.rdata addNr _ handsOut_addNr))⟩) g b)

/-- `HandsOut.store` for an entry that is stored only if it holds anything (the signature, the malformed-message data): it must
    hold no reference when it holds nothing -/
theorem HandsOut.storeOpt {b b1 : Blk} (t : Tid) (c : Bool) (x : Elt t) (hs : HandsOut b b1 (eltRefs t x)) (hx : c = false → eltRefs t x = []) :
    HandsOut b (addOpt c (some x) (add t) b1).1 (oref t (addOpt c (some x) (add t) b1).2) := by
  cases c
  · rw [hx rfl] at hs; exact hs
  · exact HandsOut.store t x hs

theorem handsOut_buildSig (h : Hints) (g : GQR) (b : Blk) : HandsOut b (buildSig h g b).1 (oref .sig (buildSig h g b).2) := by
  have s123 :=
    ((handsOut_addOpt .ip (on h.sigh QueryResponseSignatureHintsMask.server_address_index) g.serverIp addIp b handsOut_addIp).trans
      (handsOut_addOpt .ct (on h.sigh QueryResponseSignatureHintsMask.query_classtype_index) g.classtype addCt _ handsOut_addCt)).trans
      (handsOut_addOpt .nr (on h.sigh QueryResponseSignatureHintsMask.query_opt_rdata_index) g.optRdata addNr _ handsOut_addNr)
  unfold buildSig
  split
  · exact .refl b
  · simp only [ite_eq_addOpt]
    exact HandsOut.storeOpt .sig _ _ s123 fun hf => congrArg sigRefs (Sig.eq_default hf)

theorem rpd_refs (bw flags : Option Nat) :
    (match (if (bw.isSome || flags.isSome) = true then some ({ bw := bw, flags := flags } : RPD) else none) with
      | some r => oref .nr r.bw | none => []) = oref .nr bw := by
  cases bw <;> cases flags <;> simp [oref]

theorem qre_refs (e : QRE) : qreRefs (if e.filled = true then some e else none) = oref .ql e.q ++ oref .rl e.an ++ oref .rl e.au ++ oref .rl e.ad := by
  cases hf : e.filled
  · rw [QRE.eq_default hf]; rfl
  · rfl

theorem handsOut_buildQ (h : Hints) (g : GQR) (b : Blk) : HandsOut b (buildQ h g b).1 (qRefs (buildQ h g b).2) := by
  have nr := fun c o b => handsOut_addOpt .nr c o addNr b handsOut_addNr
  have ql := fun c o b => handsOut_addSection .ql c o addGenericQlist b handsOut_addGenericQlist
  have rl := fun c o b => handsOut_addSection .rl c o (addGenericRrlist h) b (handsOut_addGenericRrlist h)
  have c : HandsOut b (buildQ h g b).1 _ :=
    (handsOut_addOpt .ip _ g.clientIp addIp b handsOut_addIp).trans <|
    (handsOut_buildSig h g _).trans <|
    (nr _ g.queryName _).trans <|
    (nr _ g.bailiwick _).trans <|
    (ql _ g.queryQuestions _).trans <|
    (rl _ g.queryAnswers _).trans <|
    (rl _ g.queryAuthority _).trans <|
    (rl _ g.queryAdditional _).trans <|
    (ql _ g.responseQuestions _).trans <|
    (rl _ g.responseAnswers _).trans <|
    (rl _ g.responseAuthority _).trans <|
    rl _ g.responseAdditional _
  -- as a set, what they hand out is `qRefs` of the record filled
  refine fun F hF => (c F hF).congr (fun _ => rfl) fun r => ?_
  unfold buildQ
  simp only [qRefs, rpd_refs, qre_refs, List.mem_append, or_assoc]

theorem handsOut_mmSteps (g : GMM) (b : Blk) : HandsOut b (mmSteps g b).1 (mmRefs (mmSteps g b).2) :=
  (handsOut_addOpt .ip true g.clientIp addIp b handsOut_addIp).trans <|
    HandsOut.storeOpt .mmd _ _ (handsOut_addOpt .ip true g.serverIp addIp _ handsOut_addIp) fun hf => congrArg mmdRefs (MMD.eq_default hf)

theorem Rooted.absorb {b b' : Blk} {R : List Ref} (h : Rooted b R) (hlen : ∀ t, len b' t = len b t)
    (hall : ∀ r, r ∈ allRefs b' ↔ r ∈ allRefs b ∨ r ∈ R) : Rooted b' [] :=
  h.congr hlen fun r => (or_iff_left List.not_mem_nil).trans (hall r)

theorem rooted_setStats {b : Blk} {R : List Ref} (st : Option Stats) (h : Rooted b R) : Rooted (setStats b st) R := by
  cases st <;> exact h

theorem Rooted.push_qr {b : Blk} {q : QRec} (h : Rooted b (qRefs q)) : Rooted { b with qrs := b.qrs ++ [q] } [] :=
  h.absorb (fun _ => rfl) fun r => by
    simp only [allRefs, List.mem_append, List.flatMap_append, List.flatMap_singleton]
    rw [← or_assoc, or_right_comm (b := r ∈ qRefs q), or_right_comm (b := r ∈ qRefs q)]

theorem Rooted.push_mm {b : Blk} {m : MMRec} (h : Rooted b (mmRefs m)) : Rooted { b with mms := b.mms ++ [m] } [] :=
  h.absorb (fun _ => rfl) fun r => by
    simp only [allRefs, List.mem_append, List.flatMap_append, List.flatMap_singleton, or_assoc]

theorem aecRefs_keys (l : List (AEC × Nat)) : l.flatMap aecRefs = (l.map (·.1)).map fun k => (Tid.ip, k.ai) := by
  rw [List.map_map, List.map_eq_flatMap]; rfl

theorem mem_refs_bump {a : AEC} {l : List (AEC × Nat)} {r : Ref} :
    r ∈ (bump a l).flatMap aecRefs ↔ r ∈ l.flatMap aecRefs ∨ r ∈ aecRefs (a, 1) := by
  rw [aecRefs_keys, aecRefs_keys, keys_bump]
  simp only [aecRefs, List.mem_singleton]
  split
  · next h => exact ⟨.inl, fun h' => h'.elim id fun e => e ▸ List.mem_map_of_mem h⟩
  · simp only [List.map_append, List.mem_append, List.map_cons, List.map_nil, List.mem_singleton]

theorem Rooted.bump {b : Blk} {a : AEC} (h : Rooted b [(.ip, a.ai)]) : Rooted { b with aecs := bump a b.aecs } [] :=
  h.absorb (fun _ => rfl) fun r => by
    simp only [allRefs, List.mem_append, mem_refs_bump]
    rw [← or_assoc, or_right_comm (b := r ∈ aecRefs (a, 1))]; rfl

/-- The table steps of a record hand out the references of the record they fill; storing it discharges them, and a record
    that is not stored holds no index. -/
theorem rooted_addRec (h : Hints) (b : Blk) (r : Rec) (hb : Rooted b []) : Rooted (addRec h b r) [] := by
  cases r with
  | qr g st =>
    have hs : Rooted _ (qRefs _) := handsOut_buildQ h g { b with earliest := updEarliest b g.ts } [] hb
    simp only [addRec, addQR_eq]
    refine rooted_setStats st ?_
    split
    · exact hs.push_qr
    · next hf => rwa [congrArg qRefs (QRec.eq_default (Bool.eq_false_iff.2 hf))] at hs
  | aec g st =>
    have h0 := rooted_setStats st hb
    cases hon : on h.odh OtherDataHintsMask.address_event_counts
    · simp only [addRec, addAEC_off h g st b hon]; exact h0
    · simp only [addRec, addAEC_on h g st b hon]
      exact Rooted.bump (a := aecKey g _) (handsOut_addIp (setStats b st) g.ip [] h0)
  | mm g st =>
    have h0 := rooted_setStats st hb
    cases hon : on h.odh OtherDataHintsMask.malformed_messages
    · simp only [addRec, addMM_off h g st b hon]; exact h0
    · have hs : Rooted _ (mmRefs _) := handsOut_mmSteps g { setStats b st with earliest := updEarliest (setStats b st) g.ts } [] h0
      simp only [addRec, addMM_eq h g st b hon]
      split
      · exact hs.push_mm
      · next hf => rwa [congrArg mmRefs (MMRec.eq_default (Bool.eq_false_iff.2 hf))] at hs

theorem inv_build (h : Hints) (recs : List Rec) : Closed (build h recs) ∧ Reach (build h recs) := by
  refine Rooted.closed_reach <| build_ind h (fun _ b => Rooted b []) recs (fun ⟨t, j⟩ => ⟨?_, fun hj => ?_⟩) fun _ r b _ hb => rooted_addRec h b r hb
  · exact fun hr => hr.elim nofun nofun
  · cases t <;> exact absurd hj (Nat.not_lt_zero j)

end CdnsVerif.Model.Builder
