/-
  The invariant of the output stack `Model.Stack` between API calls (`Inv`; every history keeps it: `run_inv`): `Core`; a writer whose
  failure flag is set has thrown; and while no API call threw for an output, the bytes produced for it are nothing, or the file header and
  the blocks written so far (`OpenBytes`), with the break once a rotation closed it (`ClosedBytes`).  With `Core` this is C13/C02's
  "complete file or empty" at the level of what reached the operating system.
-/
import CdnsVerif.Proofs.Stack
namespace CdnsVerif.Model.Stack
open CdnsVerif.Spec.Cbor

variable (hdr : Bytes) (enc : List Nat → Bytes)

/-- `g`: the bytes produced for an open output that has received `n` blocks (`n` is to be `St.bw`) -/
def OpenBytes (n : Nat) (g : Bytes) : Prop :=
  ∃ bl : List (List Nat), bl.length = n ∧ (∀ b ∈ bl, b ≠ []) ∧ g = (if n = 0 then [] else hdr) ++ (bl.map enc).flatten

/-- `g`: the bytes produced for an output that a rotation closed: nothing, or a complete file -/
def ClosedBytes (g : Bytes) : Prop :=
  g = [] ∨ (∃ bl : List (List Nat), bl ≠ [] ∧ (∀ b ∈ bl, b ≠ []) ∧ g = hdr ++ (bl.map enc).flatten ++ [0xff])

theorem openBytes_block (s : St) (h : OpenBytes hdr enc s.bw s.given) :
    OpenBytes hdr enc (s.bw + if s.cur = [] then 0 else 1) (s.given ++ blockBytes hdr enc s) := by
  obtain ⟨bl, hl, hne, hg⟩ := h
  unfold blockBytes
  split
  · exact ⟨bl, hl, hne, by simpa using hg⟩
  · next hcur =>
    refine ⟨bl ++ [s.cur], by simp [hl], List.forall_mem_append.2 ⟨hne, List.forall_mem_singleton.2 hcur⟩, ?_⟩
    by_cases h0 : s.bw = 0
    · simp [hg, h0, List.eq_nil_of_length_eq_zero (hl.trans h0)]
    · simp [hg, h0, List.append_assoc]

theorem closedBytes_of_open {n : Nat} {g : Bytes} (h : OpenBytes hdr enc n g) :
    ClosedBytes hdr enc (g ++ (if n > 0 then [0xff] else [])) := by
  obtain ⟨bl, hl, hne, hg⟩ := h
  by_cases h0 : n = 0
  · left; simp [hg, h0, List.eq_nil_of_length_eq_zero (hl.trans h0)]
  · exact .inr ⟨bl, fun hnil => h0 (by simpa [hnil] using hl.symm), hne, by simp [hg, h0, Nat.pos_of_ne_zero h0]⟩

theorem closedBytes_rot (s : St) (exp : Bool) (h : OpenBytes hdr enc s.bw s.given) :
    ClosedBytes hdr enc (s.given ++ rotBytes hdr enc s exp) := by
  cases exp
  · exact closedBytes_of_open hdr enc h
  · rw [rotBytes, ← List.append_assoc]; exact closedBytes_of_open hdr enc (openBytes_block hdr enc s h)

/-- between API calls: `live` speaks of the open output, `closed` of those filed by rotations -/
structure Inv (s : St) : Prop where
  core : Core s
  live : s.threw = false → s.w.failed = false ∧ OpenBytes hdr enc s.bw s.given
  closed : ∀ o ∈ s.closed, o.threw = false → ClosedBytes hdr enc o.given

theorem init_inv : Inv hdr enc St.init :=
  ⟨⟨fun _ => rfl, by simp [St.init]⟩, fun _ => ⟨rfl, [], rfl, nofun, rfl⟩, by simp [St.init]⟩

/-- `hsh`: what the piece does to the shape, asked only of a piece that ended normally: one that threw sets the ghost `threw`, after
    which `Inv` says nothing of the shape -/
theorem Eff.inv {ok : Prop} {s s' : St} {t : Bool} {p : Bytes} (h : Eff ok s s' t p) (hi : Inv hdr enc s)
    (hsh : t = false → OpenBytes hdr enc s.bw s.given → OpenBytes hdr enc s'.bw (s.given ++ p)) :
    Inv hdr enc { s' with threw := s'.threw || t } := by
  refine ⟨h.core hi.core, fun hth => ?_, h.closed_eq ▸ hi.closed⟩
  simp only [Bool.or_eq_false_iff] at hth
  have h0 := hi.live (h.threw_eq ▸ hth.1)
  exact ⟨(h.quiet hth.2).2 h0.1, (h.quiet hth.2).1 ▸ hsh hth.2 h0.2⟩

theorem step_writeBlock_inv (s : St) (hc bc : Cuts) (hi : Inv hdr enc s) :
    Inv hdr enc (step hdr enc s (.writeBlock hc bc)).1 :=
  (writeBlock_spec hdr enc s hc bc).1.inv hdr enc hi fun ht h => by
    rw [((writeBlock_spec hdr enc s hc bc).2.2 ht).2]; exact openBytes_block hdr enc s h

theorem step_inv (s : St) (op : Op) (hi : Inv hdr enc s) : Inv hdr enc (step hdr enc s op).1 := by
  cases op with
  | buffer r => exact ⟨hi.core, hi.live, hi.closed⟩
  | bufferW r hc bc => exact step_writeBlock_inv hdr enc { s with cur := s.cur ++ [r] } hc bc ⟨hi.core, hi.live, hi.closed⟩
  | writeBlock hc bc => exact step_writeBlock_inv hdr enc s hc bc hi
  | rotate exp hc bc kc r =>
    obtain ⟨s', t, h, hq, e⟩ := rotate_spec hdr enc s exp hc bc kc r
    simp only [step, e]
    cases t
    · obtain ⟨hbuf, hbw, _⟩ := hq rfl
      have hf : s'.threw = false → s.w.failed = false ∧ OpenBytes hdr enc s.bw s.given := fun hth => hi.live (h.threw_eq ▸ hth)
      exact ⟨switch_core (h.core hi.core) hbuf fun hth => (h.quiet rfl).2 (hf hth).1, fun _ => ⟨rfl, [], hbw.symm, nofun, by simp [switch, hbw]⟩,
        List.forall_mem_append.2 ⟨h.closed_eq ▸ hi.closed, List.forall_mem_singleton.2 fun hth =>
          (h.quiet rfl).1 ▸ closedBytes_rot hdr enc s exp (hf hth).2⟩⟩
    · exact h.inv hdr enc hi fun ht => (by cases ht)

theorem run_inv (ops : List Op) : ∀ s, Inv hdr enc s → Inv hdr enc (run hdr enc s ops).1 := by
  induction ops with
  | nil => exact fun _ h => h
  | cons op ops ih => exact fun s h => ih _ (step_inv hdr enc s op h)

end CdnsVerif.Model.Stack
