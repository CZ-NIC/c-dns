/-
  Records assembled slot by slot (the shape of every `…::write` in the C++: one optional member after the other, in
  declaration order).  A struct's members are described once, as a `List Slot` (`Describes`); that the record written
  conforms to the schema (`conforms_written`) and which members it holds (`mem_written`) follow from the description here,
  what the keyed readers return on it in `Proofs/ReadBlock.lean`.  `slots` is the normal form of a written record
  (`written_eq`): the list facts (`mem_slots`, `slots_keys_sublist`, `ReadBlock.fld_slots`) are proved about it.
-/
import CdnsVerif.Proofs.Schema
import CdnsVerif.Model.Builder

namespace CdnsVerif.Model.Schema

def slots : List (Field × Option Val) → List (Int × Val)
  | [] => []
  | (f, some v) :: l => (f.key, v) :: slots l
  | (_, none) :: l => slots l

theorem slots_keys_sublist (l : List (Field × Option Val)) : ((slots l).map (·.1)).Sublist (l.map (·.1.key)) := by
  induction l with
  | nil => exact List.Sublist.slnil
  | cons p l ih =>
    obtain ⟨f, o⟩ := p
    cases o with
    | none => exact List.Sublist.cons _ ih
    | some v => exact List.Sublist.cons_cons _ ih

theorem mem_slots {l : List (Field × Option Val)} {k : Int} {v : Val} : (k, v) ∈ slots l ↔ ∃ f, (f, some v) ∈ l ∧ f.key = k := by
  induction l with
  | nil => simp [slots]
  | cons p l ih =>
    obtain ⟨g, o⟩ := p
    cases o with
    | none => simp [slots, ih]
    | some w =>
      simp only [slots, List.mem_cons, ih, Prod.mk.injEq, Option.some.injEq, or_and_right, exists_or, and_assoc, exists_eq_left]
      rw [eq_comm (a := k), and_comm (a := g.key = k)]

end CdnsVerif.Model.Schema

namespace CdnsVerif.Model.Builder
open CdnsVerif.Spec.Cbor CdnsVerif.Model.Schema

-- bounds on a member: an unsigned below `2 ^ bits`; a string of bytes (each below 256) whose length is a `uint64_t`; a signed within
-- `int64_t`.  Of an optional member they ask nothing where it is absent.
def ULt (bits : Nat) (o : Option Nat) : Prop := ∀ n, o = some n → n < 2 ^ bits
def StrOk (s : Bytes) : Prop := s.length < 2 ^ 64 ∧ bytesOk s
def OStrOk (o : Option Bytes) : Prop := ∀ s, o = some s → StrOk s
def I64 (o : Option Int) : Prop := ∀ n, o = some n → -(2 ^ 63 : Int) ≤ n ∧ n < 2 ^ 63

/-- one member as a struct writer of src/block.cpp emits it -/
inductive Slot where
  | N (k : Int) (bits : Nat) (req : Bool) (o : Option Nat)     -- unsigned, `bits` wide
  | I (k : Int) (o : Option Int)                               -- int64_t
  | S (k : Int) (kind : Kind) (o : Option Bytes)               -- text or byte string
  | V (k : Int) (kind : Kind) (req : Bool) (o : Option Val)    -- a member that has its own writer
  | L (k : Int) (elem : Kind) (vs : List Val)                  -- array, written when not empty
  | R (k : Int) (kind : Kind) (ms : List (Int × Val))          -- map, written when not empty

namespace Slot

def field : Slot → Field
  | N k bits req _ => .mk k (.uint bits) req
  | I k _ => .mk k .int64 false
  | S k kind _ => .mk k kind false
  | V k kind req _ => .mk k kind req
  | L k elem _ => .mk k (.arr elem) false
  | R k kind _ => .mk k kind false

def val : Slot → Option Val
  | N _ _ _ o => o.map fun n : Nat => .num n
  | I _ o => o.map .num
  | S _ _ o => o.map .str
  | V _ _ _ o => o
  | L _ _ vs => if vs.isEmpty then none else some (.list vs)
  | R _ _ ms => if ms.isEmpty then none else some (.record ms)

/-- in the very terms of the writers of `Model.Builder` -/
def members : Slot → List (Int × Val)
  | N k _ _ o => optN k o
  | I k o => optI k o
  | S k _ o => optS k o
  | V k _ _ o => optV k o
  | L k _ vs => nonEmpty k vs
  | R k _ ms => if ms.isEmpty then [] else [(k, .record ms)]

/-- the value fits the member's C++ type -/
def Ok : Slot → Prop
  | N _ bits _ o => ULt bits o
  | I _ o => I64 o
  | S _ kind o => ∀ s, o = some s → Conforms kind (.str s)
  | V _ kind _ o => ∀ v, o = some v → Conforms kind v
  | L _ elem vs => vs.length < 2 ^ 64 ∧ ∀ v ∈ vs, Conforms elem v
  | R _ kind ms => Conforms kind (.record ms)

theorem members_eq (s : Slot) : s.members = optV s.field.key s.val := by
  cases s with
  | N k _ _ o | I k o | S k _ o => cases o <;> rfl
  | V k kind req o => rfl
  | L k _ vs | R k _ vs => cases vs <;> rfl

theorem ok_map {α : Type} {k : Int} {kind : Kind} {req : Bool} {o : Option α} {f : α → Val}
    (h : ∀ x, o = some x → Conforms kind (f x)) : (V k kind req (o.map f)).Ok := by
  intro v hv
  obtain ⟨x, rfl, rfl⟩ := Option.map_eq_some_iff.1 hv
  exact h x rfl

theorem ok_list {α : Type} {k : Int} {elem : Kind} {l : List α} {f : α → Val} (hlen : l.length < 2 ^ 64)
    (h : ∀ x ∈ l, Conforms elem (f x)) : (L k elem (l.map f)).Ok :=
  ⟨by rw [List.length_map]; exact hlen, fun v hv => by obtain ⟨x, hx, rfl⟩ := List.mem_map.1 hv; exact h x hx⟩

end Slot

theorem slots_nil' : slots [] = [] := rfl
theorem optN_some (k : Int) (n : Nat) : optN k (some n) = [(k, .num (n : Int))] := rfl
theorem optV_some (k : Int) (v : Val) : optV k (some v) = [(k, v)] := rfl

/-- the record written: nested to the left like the `toVal`s of `Model.Builder`, so that each of them is `written` of its
    slot list by `rfl` -/
def written (l : List Slot) : List (Int × Val) := l.foldl (fun acc s => acc ++ s.members) []

theorem written_eq (l : List Slot) : written l = slots (l.map fun s => (s.field, s.val)) := by
  rw [written, ← List.flatMap_eq_foldl]
  induction l with
  | nil => rfl
  | cons s l ih => rw [List.flatMap_cons, ih, List.map_cons, s.members_eq]; cases s.val <;> rfl

theorem mem_written {l : List Slot} {k : Int} {v : Val} : (k, v) ∈ written l ↔ ∃ s ∈ l, s.field.key = k ∧ s.val = some v := by
  rw [written_eq, mem_slots]
  constructor
  · rintro ⟨f, hf, hk⟩
    obtain ⟨s, hs, e⟩ := List.mem_map.1 hf
    obtain ⟨e1, e2⟩ := Prod.mk.inj e
    exact ⟨s, hs, e1 ▸ hk, e2⟩
  · rintro ⟨s, hs, hk, hv⟩
    exact ⟨s.field, List.mem_map.2 ⟨s, hs, hv ▸ rfl⟩, hk⟩

theorem written_keys_sublist (l : List Slot) : ((written l).map (·.1)).Sublist ((l.map Slot.field).map (·.key)) := by
  have := slots_keys_sublist (l.map fun s => (s.field, s.val))
  rw [← written_eq, List.map_map] at this
  rwa [List.map_map]

/-- what the round trip asks of a schema's member: the key is an `int64_t`, an unsigned member is at most 64 bits wide -/
def fieldOk (f : Field) : Bool :=
  decide (-(2 ^ 63 : Int) ≤ f.key) && decide (f.key < 2 ^ 63) && match f.kind with | .uint b => decide (b ≤ 64) | _ => true

/-- … and of its member list (finite: checked by evaluation, once per schema) -/
def fieldsOk (fs : List Field) : Bool := decide (fs.map (·.key)).Nodup && decide (fs.length < 2 ^ 64) && fs.all fieldOk

def fieldsOf : Kind → List Field
  | .struct fs => fs
  | _ => []

/-- the slot list `l` describes the value `v` as a record of the schema `k`: the one statement made per struct, from which both
    directions (`conforms_written`, and `readBy_written` of `Proofs/ReadBlock.lean`) start.  `ok` speaks of `k` and not of `l`: where
    `k` is a schema constant it is a closed term, which `decide` evaluates (`l` holds the record's variables) -/
structure Describes (k : Kind) (v : Val) (l : List Slot) : Prop where
  kind : k = .struct (l.map Slot.field)
  val : v = .record (written l)
  ok : fieldsOk (fieldsOf k) = true

theorem Slot.conforms (s : Slot) (hf : fieldOk s.field = true) (hs : s.Ok) : ∀ v, s.val = some v → Conforms s.field.kind v := by
  intro v hv
  cases s with
  | N k bits req o =>
    obtain ⟨n, rfl, rfl⟩ := Option.map_eq_some_iff.1 hv
    simp only [fieldOk, Slot.field, Field.kind, Bool.and_eq_true, decide_eq_true_eq] at hf
    exact conforms_uint (hs n rfl) hf.2
  | I k o | S k _ o => obtain ⟨n, rfl, rfl⟩ := Option.map_eq_some_iff.1 hv; exact hs n rfl
  | V k kind req o => exact hs v hv
  | L k elem vs => cases (Option.ite_none_left_eq_some.1 hv).2; exact ⟨hs.1, conformsList_of elem vs hs.2⟩
  | R k kind ms => cases (Option.ite_none_left_eq_some.1 hv).2; exact hs

def SlotsOk (l : List Slot) : Prop := ∀ s ∈ l, s.Ok ∧ (s.field.required = true → s.val.isSome = true)

theorem SlotsOk.nil : SlotsOk [] := fun _ h => nomatch h

theorem SlotsOk.opt {s : Slot} {l : List Slot} (h : s.Ok) (hl : SlotsOk l) (hr : s.field.required = false := by rfl) : SlotsOk (s :: l) :=
  List.forall_mem_cons.2 ⟨⟨h, fun h' => by rw [hr] at h'; cases h'⟩, hl⟩

theorem SlotsOk.reqN {k : Int} {bits n : Nat} {l : List Slot} (h : n < 2 ^ bits) (hl : SlotsOk l) : SlotsOk (.N k bits true (some n) :: l) :=
  List.forall_mem_cons.2 ⟨⟨fun m hm => by cases hm; exact h, fun _ => rfl⟩, hl⟩

theorem SlotsOk.reqV {k : Int} {kind : Kind} {v : Val} {l : List Slot} (h : Conforms kind v) (hl : SlotsOk l) :
    SlotsOk (.V k kind true (some v) :: l) :=
  List.forall_mem_cons.2 ⟨⟨fun w hw => by cases hw; exact h, fun _ => rfl⟩, hl⟩

theorem conforms_written {k : Kind} {v : Val} {l : List Slot} (h : Describes k v l) (hok : SlotsOk l) : Conforms k v := by
  obtain ⟨rfl, rfl, (hf : fieldsOk (l.map Slot.field) = true)⟩ := h
  simp only [fieldsOk, Bool.and_eq_true, decide_eq_true_eq, List.all_eq_true] at hf
  obtain ⟨⟨hnd, hlen⟩, hfo⟩ := hf
  have hsub := written_keys_sublist l
  simp only [Conforms]
  refine ⟨Nat.lt_of_le_of_lt (by simpa using hsub.length_le) hlen, conformsPairs_of _ _ fun k v hm => ?_, hsub.nodup hnd, ?_, hnd, hsub⟩
  · obtain ⟨s, hs, rfl, hv⟩ := mem_written.1 hm
    have hfs := hfo _ (List.mem_map_of_mem hs)
    have hk := hfs
    simp only [fieldOk, Bool.and_eq_true, decide_eq_true_eq] at hk
    exact ⟨hk.1, s.field, find_of_mem_nodup _ _ (List.mem_map_of_mem hs) hnd, s.conforms hfs (hok s hs).1 v hv⟩
  · rw [List.all_eq_true]
    intro f hf
    obtain ⟨s, hs, rfl⟩ := List.mem_map.1 hf
    cases hr : s.field.required with
    | false => rfl
    | true =>
      obtain ⟨v, hv⟩ := Option.isSome_iff_exists.1 ((hok s hs).2 hr)
      simp only [Bool.not_true, Bool.false_or, List.any_eq_true]
      exact ⟨_, mem_written.2 ⟨s, hs, rfl, hv⟩, by simp⟩

end CdnsVerif.Model.Builder
