/-
  The fuel of the reader model never binds (the statements are in Props/C03.lean): on ANY input `bs`, above a bound linear in `|bs|` one
  more unit of fuel changes nothing (`…_succ`, by induction on that fuel), hence any two fuels above it give the same result
  (`eq_of_succ`, `…_adequate`): each iteration takes a byte, or closes a nesting level that a consumed byte had opened.  The proofs walk
  down the program at the two fuels in step by congruence lemmas (`split` would rewrite the whole remaining conditional, on both
  sides, at every level: slow).
-/
import CdnsVerif.Proofs.ReaderLoop
import CdnsVerif.Proofs.Skip
namespace CdnsVerif.Proofs.Fuel
open CdnsVerif.Spec.Cbor CdnsVerif.Model CdnsVerif.Model.Decoder CdnsVerif.Model.Schema
open CdnsVerif.Model.Prog (Pays run_le run_bind_congr2 run_bind_congr_left run_ite_congr)

theorem eq_of_succ {α : Type} {P : Nat → α} {m : Nat} (h : ∀ f, m ≤ f → P f = P (f + 1)) {f1 f2 : Nat} (h1 : m ≤ f1) (h2 : m ≤ f2) :
    P f1 = P f2 := by
  have key : ∀ f, m ≤ f → P f = P m := fun f hf => by
    induction hf with
    | refl => rfl
    | @step f hf ih => rw [← h f hf, ih]
  rw [key f1 h1, key f2 h2]

theorem readChunks_succ (major : Nat) : ∀ (f : Nat) (bs : Bytes), bs.length < f →
    (readChunks major f).run bs = (readChunks major (f + 1)).run bs
  | 0, _, h => by omega
  | g+1, bs, h => by
    refine run_bind_congr _ _ _ _ fun t r0 hp => run_ite_congr (fun _ => rfl) fun _ => ?_
    have hr0 := run_le hp
    refine run_bind_congr _ _ _ _ fun ⟨ct, cl⟩ r1 hc => ?_
    have hr1 := isNext_lt isNext_readCborType hc
    refine run_ite_congr (fun _ => rfl) fun _ => run_ite_congr (fun _ => rfl) fun _ => ?_
    refine run_bind_congr _ _ _ _ fun n r2 hn => run_bind_congr _ _ _ _ fun c r3 hcN => ?_
    have hr2 := run_le hn
    have hr3 := run_le hcN
    exact run_bind_congr_left _ _ _ _ (readChunks_succ major g r3 (by omega))

theorem readString_succ (major n : Nat) (indef : Bool) (f : Nat) (bs : Bytes) (h : bs.length < f) :
    (readString major n indef f).run bs = (readString major n indef (f + 1)).run bs :=
  run_ite_congr (fun _ => rfl) fun _ => run_bind_congr_left _ _ _ _ (readChunks_succ major f bs h)

theorem readStr_succ (major : Nat) (f : Nat) (bs : Bytes) (h : bs.length ≤ f) :
    (readStr major f).run bs = (readStr major (f + 1)).run bs := by
  refine run_bind_congr _ _ _ _ fun ⟨t, ai⟩ r1 hc => ?_
  have hr1 := isNext_lt isNext_readCborType hc
  refine run_ite_congr (fun _ => rfl) fun _ => run_ite_congr (fun _ => rfl) fun _ => run_bind_congr _ _ _ _ fun n r2 hn => ?_
  have hr2 := run_le hn
  exact readString_succ major n _ f r2 (by omega)

theorem content_adequate (t : Nat) (indef : Bool) (n f1 f2 : Nat) (bs : Bytes) (h1 : bs.length < f1) (h2 : bs.length < f2) :
    (content t indef n f1).run bs = (content t indef n f2).run bs := by
  unfold content
  split
  · exact eq_of_succ (P := fun f => (readString t n _ f).run bs) (fun f => readString_succ t n _ f bs) h1 h2
  · rfl

theorem skipHead_congr (sf1 sf2 : Nat) (levels : List Level) (k1 k2 : List Level → Prog Unit) (bs : Bytes)
    (hs1 : bs.length ≤ sf1) (hs2 : bs.length ≤ sf2)
    (hk : ∀ L' r, r.length < bs.length → L'.length ≤ levels.length + 2 → (k1 L').run r = (k2 L').run r) :
    (skipHead sf1 levels k1).run bs = (skipHead sf2 levels k2).run bs := by
  rw [skipHead_eq, skipHead_eq]
  refine run_bind_congr _ _ _ _ fun ⟨t, ai⟩ r1 hc => ?_
  have hr1 := isNext_lt isNext_readCborType hc
  refine run_ite_congr (fun _ => rfl) fun _ => run_bind_congr _ _ _ _ fun n r2 h2 => ?_
  have hr2 := run_le h2
  refine run_bind_congr2 _ _ _ _ _ (content_adequate t _ n sf1 sf2 r2 (by omega) (by omega)) fun _ r3 h3 => ?_
  have hr3 := run_le h3
  have := opened_length t (ai == 31) n
  exact hk _ r3 (by omega) (by rw [List.length_append]; omega)

/-- every iteration takes a byte or closes a level, and a head byte opens at most two levels: hence `3·|bs| + |L|` -/
theorem skipLoop_succ : ∀ (f sf : Nat) (L : List Level) (bs : Bytes), bs.length ≤ sf → 3 * bs.length + L.length < f →
    (skipLoop sf f L).run bs = (skipLoop (sf + 1) (f + 1) L).run bs
  | 0, _, _, _, _, h => by omega
  | _+1, _, [], _, _, _ => rfl
  | g+1, sf, top :: rest, bs, hs, h => by
    simp only [List.length_cons] at h
    have hhead : ∀ r0 : Bytes, r0.length ≤ bs.length →
        (skipHead sf (top.after :: rest) (skipLoop sf g)).run r0 =
          (skipHead (sf + 1) (top.after :: rest) (skipLoop (sf + 1) (g + 1))).run r0 :=
      fun r0 hr0 => skipHead_congr sf (sf + 1) _ _ _ r0 (by omega) (by omega) fun L' r hr hL => by
        simp only [List.length_cons] at hL
        exact skipLoop_succ g sf L' r (by omega) (by omega)
    refine run_ite_congr (fun _ => run_bind_congr _ _ _ _ fun t r0 hp => ?_) fun _ =>
      run_ite_congr (fun _ => ?_) fun _ => hhead bs (Nat.le_refl _)
    · have hr0 := run_le hp
      refine run_ite_congr (fun _ => run_ite_congr (fun _ => rfl) fun _ => ?_) fun _ => hhead r0 hr0
      cases r0 with
      | nil => rfl
      | cons b tl =>
        simp only [List.length_cons] at hr0
        exact skipLoop_succ g sf rest tl (by omega) (by omega)
    · exact skipLoop_succ g sf rest bs hs (by omega)

theorem skipItem_adequate (f1 f2 : Nat) (bs : Bytes) (h1 : 3 * bs.length + 1 < f1) (h2 : 3 * bs.length + 1 < f2) :
    (skipItem f1).run bs = (skipItem f2).run bs :=
  eq_of_succ (P := fun f => (skipItem f).run bs) (m := 3 * bs.length + 2)
    (fun f hf => skipLoop_succ f f _ bs (by omega) (by simp only [List.length_cons, List.length_nil]; omega)) h1 h2

theorem readVal_lt (f : Nat) (k : Kind) {bs r : Bytes} {v : Val} (h : (readVal f k).run bs = .ok (v, r)) : r.length < bs.length := by
  refine Pays.lt ?_ h
  cases f with
  | zero => exact .throw
  | succ g =>
    cases k with
    | uint bits => exact .bind (.of_isNext isNext_readUnsigned) fun _ => .free _
    | int64 => exact .bind pays_readInteger fun _ => .free _
    | tstr | bstr => exact .bind (.of_isNext (isNext_readStr _ _)) fun _ => .free _
    | bool => exact .bind (.of_isNext isNext_readBool) fun _ => .free _
    | arr ek | struct fs => exact .bind (.of_isNext (isNext_readStart _)) fun _ => .free _

/-- every recursive call is on an input from which a byte has gone (array/map head, key, element) or on the same input with one
    fuel less (`readElems` → `readVal`): hence `2·|bs|`; a loop, which calls `readVal` on its own input, needs one more than `readVal` -/
theorem readers_succ : ∀ (f : Nat),
    (∀ (k : Kind) (bs : Bytes), 2 * bs.length + 2 ≤ f → (readVal f k).run bs = (readVal (f + 1) k).run bs) ∧
    (∀ (k : Kind) (len : Nat) (indef : Bool) (acc : List Val) (bs : Bytes), 2 * bs.length + 3 ≤ f →
      (readElems f k len indef acc).run bs = (readElems (f + 1) k len indef acc).run bs) ∧
    (∀ (fs : List Field) (len : Nat) (indef : Bool) (acc : List (Int × Val)) (bs : Bytes), 2 * bs.length + 3 ≤ f →
      (readFields f fs len indef acc).run bs = (readFields (f + 1) fs len indef acc).run bs)
  | 0 => ⟨fun _ _ h => by omega, fun _ _ _ _ _ h => by omega, fun _ _ _ _ _ h => by omega⟩
  | g+1 => by
    obtain ⟨ihV, ihE, ihF⟩ := readers_succ g
    refine ⟨fun k bs h => ?_, fun k len indef acc bs h => ?_, fun fs len indef acc bs h => ?_⟩
    · cases k with
      | uint bits | int64 | bool => rfl
      | tstr | bstr => exact run_bind_congr_left _ _ _ _ (readStr_succ _ g bs (by omega))
      | arr ek =>
        refine run_bind_congr _ _ _ _ fun ⟨len, indef⟩ r1 hs => ?_
        have hr1 := isNext_lt (isNext_readStart _) hs
        exact run_bind_congr_left _ _ _ _ (ihE ek len indef [] r1 (by omega))
      | struct fs =>
        refine run_bind_congr _ _ _ _ fun ⟨len, indef⟩ r1 hs => ?_
        have hr1 := isNext_lt (isNext_readStart _) hs
        exact run_bind_congr_left _ _ _ _ (ihF fs len indef [] r1 (by omega))
    · rw [readElems_eq, readElems_eq]
      refine loopHead_congr _ _ _ (run_bind_congr2 _ _ _ _ _ (ihV k bs (by omega)) fun v r1 hv => ?_)
      have hr1 := readVal_lt g k hv
      exact ihE k (len - 1) indef (acc ++ [v]) r1 (by omega)
    · rw [readFields_eq, readFields_eq]
      refine loopHead_congr _ _ _ (run_bind_congr _ _ _ _ fun key r1 hk => ?_)
      have hr1 := pays_readInteger.lt hk
      cases fs.find? (fun f => f.key == key) with
      | some f =>
        refine run_bind_congr2 _ _ _ _ _ (ihV f.kind r1 (by omega)) fun v r2 hv => ?_
        have hr2 := readVal_lt g f.kind hv
        exact ihF fs (len - 1) indef _ r2 (by omega)
      | none =>
        -- the skip has fuel `3 * g + 2` resp. `3 * (g + 1) + 2`, and `r1` is shorter than `g`: both are above what it can use
        refine run_bind_congr2 _ _ _ _ _ (skipItem_adequate _ _ r1 (by omega) (by omega)) fun _ r2 hsk => ?_
        have hr2 := run_le hsk
        exact ihF fs (len - 1) indef _ r2 (by omega)

end CdnsVerif.Proofs.Fuel
