/-
  The nine block tables of `Model.Builder` under one index: `tbl t b` is table `t` of block `b`, `add t` find-or-append on it;
  the model's `addIp … addMmd` are `add .ip … add .mmd` by `rfl` (which is how the lemmas here apply to the model's terms).
  An invariant that every `add` keeps (`Kept`) is carried through the builder's steps once, for `Grows` (a step only appends to
  tables) and for every invariant that asks something of each table entry (`AllT`).
-/
import CdnsVerif.Model.Builder
import CdnsVerif.Proofs.Lists

namespace CdnsVerif.Model.Builder
open CdnsVerif.Spec.Cbor CdnsVerif.Generated

inductive Tid where
  | ip | ct | nr | sig | ql | qrr | rl | rr | mmd
  deriving DecidableEq, Repr

abbrev Elt : Tid → Type
  | .ip => Bytes | .ct => Nat × Nat | .nr => Bytes | .sig => Sig | .ql => List Nat
  | .qrr => Nat × Nat | .rl => List Nat | .rr => RRe | .mmd => MMD

instance Elt.decEq : (t : Tid) → DecidableEq (Elt t)
  | .ip => inferInstanceAs (DecidableEq Bytes) | .ct => inferInstanceAs (DecidableEq (Nat × Nat))
  | .nr => inferInstanceAs (DecidableEq Bytes) | .sig => inferInstanceAs (DecidableEq Sig)
  | .ql => inferInstanceAs (DecidableEq (List Nat)) | .qrr => inferInstanceAs (DecidableEq (Nat × Nat))
  | .rl => inferInstanceAs (DecidableEq (List Nat)) | .rr => inferInstanceAs (DecidableEq RRe)
  | .mmd => inferInstanceAs (DecidableEq MMD)

def tbl : (t : Tid) → Blk → List (Elt t)
  | .ip, b => b.ip | .ct, b => b.ct | .nr, b => b.nr | .sig, b => b.sig | .ql, b => b.qlist
  | .qrr, b => b.qrr | .rl, b => b.rrlist | .rr, b => b.rr | .mmd, b => b.mmd

def setTbl : (t : Tid) → Blk → List (Elt t) → Blk
  | .ip, b, l => { b with ip := l } | .ct, b, l => { b with ct := l } | .nr, b, l => { b with nr := l }
  | .sig, b, l => { b with sig := l } | .ql, b, l => { b with qlist := l } | .qrr, b, l => { b with qrr := l }
  | .rl, b, l => { b with rrlist := l } | .rr, b, l => { b with rr := l } | .mmd, b, l => { b with mmd := l }

/-- `(tbl t b).length` (`len_eq`) without the dependent type of `tbl`: what `Closed`, `Reach` and the table-size hypotheses of
    Props/C01.lean are stated with, so that they can be read, and computed at a given `t`, without `Elt` -/
def len (b : Blk) : Tid → Nat
  | .ip => b.ip.length | .ct => b.ct.length | .nr => b.nr.length | .sig => b.sig.length | .ql => b.qlist.length
  | .qrr => b.qrr.length | .rl => b.rrlist.length | .rr => b.rr.length | .mmd => b.mmd.length

theorem len_eq (b : Blk) (t : Tid) : len b t = (tbl t b).length := by cases t <;> rfl

theorem tbl_setTbl_self (t : Tid) (b : Blk) (l : List (Elt t)) : tbl t (setTbl t b l) = l := by cases t <;> rfl

theorem tbl_setTbl_ne {t t' : Tid} (h : t' ≠ t) (b : Blk) (l : List (Elt t)) : tbl t' (setTbl t b l) = tbl t' b := by
  cases t <;> cases t' <;> first | rfl | exact absurd rfl h

theorem tbl_setStats (b : Blk) (st : Option Stats) (t : Tid) : tbl t (setStats b st) = tbl t b := by cases st <;> cases t <;> rfl
theorem tbl_earliest (b : Blk) (e : Timestamp.Ts) (t : Tid) : tbl t { b with earliest := e } = tbl t b := by cases t <;> rfl
theorem tbl_qrs (b : Blk) (l : List QRec) (t : Tid) : tbl t { b with qrs := l } = tbl t b := by cases t <;> rfl
theorem tbl_aecs (b : Blk) (l : List (AEC × Nat)) (t : Tid) : tbl t { b with aecs := l } = tbl t b := by cases t <;> rfl
theorem tbl_mms (b : Blk) (l : List MMRec) (t : Tid) : tbl t { b with mms := l } = tbl t b := by cases t <;> rfl

theorem addDedup_spec [DecidableEq α] (t : List α) (x : α) :
    ((addDedup t x).1 = t ∨ (addDedup t x).1 = t ++ [x] ∧ (addDedup t x).2 = t.length) ∧
    (addDedup t x).1[(addDedup t x).2]? = some x := by
  unfold addDedup
  by_cases h : t.idxOf x < t.length
  · rw [if_pos h]; exact ⟨.inl rfl, by simp [List.getElem?_eq_getElem h]⟩
  · rw [if_neg h]; exact ⟨.inr ⟨rfl, rfl⟩, by simp⟩

theorem prefix_addDedup [DecidableEq α] (t : List α) (x : α) : t <+: (addDedup t x).1 := by
  rcases (addDedup_spec t x).1 with h | ⟨h, _⟩ <;> rw [h]
  · exact List.prefix_refl t
  · exact List.prefix_append t _

theorem mem_addDedup [DecidableEq α] {t : List α} {x y : α} : y ∈ (addDedup t x).1 ↔ y ∈ t ∨ y = x := by
  have hx : x ∈ (addDedup t x).1 := List.mem_of_getElem? (addDedup_spec t x).2
  rcases (addDedup_spec t x).1 with h | ⟨h, _⟩
  · rw [h] at hx ⊢; exact ⟨.inl, fun h' => h'.elim id (· ▸ hx)⟩
  · rw [h]; simp

theorem lt_addDedup [DecidableEq α] {t : List α} {x : α} {j : Nat} (hj : j < (addDedup t x).1.length) :
    j < t.length ∨ j = (addDedup t x).2 := by
  rcases (addDedup_spec t x).1 with h | ⟨h, h2⟩
  · exact .inl (h ▸ hj)
  · rw [h, List.length_append, List.length_singleton] at hj; omega

/-- `BlockTable::add` on table `t` -/
def add (t : Tid) (b : Blk) (x : Elt t) : Blk × Nat := let r := addDedup (tbl t b) x; (setTbl t b r.1, r.2)

theorem tbl_add_self (t : Tid) (b : Blk) (x : Elt t) : tbl t (add t b x).1 = (addDedup (tbl t b) x).1 := tbl_setTbl_self ..
theorem tbl_add_ne {t t' : Tid} (h : t' ≠ t) (b : Blk) (x : Elt t) : tbl t' (add t b x).1 = tbl t' b := tbl_setTbl_ne h ..

theorem getElem?_add (t : Tid) (b : Blk) (x : Elt t) : (tbl t (add t b x).1)[(add t b x).2]? = some x := by
  rw [tbl_add_self]; exact (addDedup_spec _ x).2

theorem mem_tbl_add {t t' : Tid} {b : Blk} {x : Elt t} {y : Elt t'} :
    y ∈ tbl t' (add t b x).1 ↔ y ∈ tbl t' b ∨ ∃ e : t = t', e ▸ x = y := by
  by_cases h : t' = t
  · subst h; rw [tbl_add_self, mem_addDedup]
    exact ⟨fun h => h.imp id fun h => ⟨rfl, h.symm⟩, fun h => h.imp id fun ⟨_, h⟩ => h.symm⟩
  · rw [tbl_add_ne h]
    exact ⟨.inl, fun h' => h'.elim id fun ⟨e, _⟩ => absurd e.symm h⟩

structure Grows (b b' : Blk) : Prop where
  tbl : ∀ t, tbl t b <+: tbl t b'
  qrs : b'.qrs = b.qrs
  aecs : b'.aecs = b.aecs
  mms : b'.mms = b.mms
  earliest : b'.earliest = b.earliest
  stats : b'.stats = b.stats

theorem Grows.refl (b : Blk) : Grows b b := ⟨fun _ => List.prefix_refl _, rfl, rfl, rfl, rfl, rfl⟩

theorem Grows.trans {a b c : Blk} (h1 : Grows a b) (h2 : Grows b c) : Grows a c :=
  ⟨fun t => (h1.tbl t).trans (h2.tbl t), h2.qrs.trans h1.qrs, h2.aecs.trans h1.aecs, h2.mms.trans h1.mms,
   h2.earliest.trans h1.earliest, h2.stats.trans h1.stats⟩

theorem grows_add (t : Tid) (b : Blk) (x : Elt t) : Grows b (add t b x).1 := by
  refine ⟨fun t' => ?_, ?_, ?_, ?_, ?_, ?_⟩
  · by_cases h : t' = t
    · subst h; rw [tbl_add_self]; exact prefix_addDedup ..
    · rw [tbl_add_ne h]; exact List.prefix_refl _
  all_goals cases t <;> rfl

theorem addOpt_elim {motive : Blk × Option Nat → Option α → Prop} (c : Bool) (o : Option α) (add : Blk → α → Blk × Nat) (b : Blk)
    (none : motive (b, none) none) (some : ∀ x, motive ((add b x).1, some (add b x).2) (some x)) :
    motive (addOpt c o add b) (keep c o) := by
  unfold addOpt keep
  cases c <;> cases o <;> first | exact none | exact some _

theorem ite_eq_addOpt {α : Type} (c : Bool) (x : α) (add : Blk → α → Blk × Nat) (b : Blk) :
    (if c = true then ((add b x).1, some (add b x).2) else (b, none)) = addOpt c (some x) add b := by cases c <;> rfl

theorem addSection_elim {motive : Blk × Option Nat → Prop} (c : Bool) (o : Option (List GRR)) (add : Blk → List GRR → Blk × Nat) (b : Blk)
    (none : motive (b, none)) (some : ∀ l, c = true → o = some l → motive ((add b l).1, some (add b l).2)) :
    motive (addSection c o add b) := by
  unfold addSection
  split
  · exact some _ rfl rfl
  · exact none

theorem keep_isSome {c : Bool} {o : Option α} (h : (keep c o).isSome = true) : c = true := by
  unfold keep at h; cases c <;> simp_all

theorem keep_forall {P : α → Prop} {c : Bool} {o : Option α} (h : ∀ x, o = some x → P x) : ∀ x, keep c o = some x → P x := by
  cases c
  · exact nofun
  · exact h

theorem addOpt_isSome {c : Bool} {o : Option α} {add : Blk → α → Blk × Nat} {b : Blk}
    (h : (addOpt c o add b).2.isSome = true) : c = true :=
  keep_isSome (addOpt_elim (motive := fun r v => r.2.isSome = true → v.isSome = true) c o add b id (fun _ _ => rfl) h)

theorem addSection_isSome {c : Bool} {o : Option (List GRR)} {add : Blk → List GRR → Blk × Nat} {b : Blk}
    (h : (addSection c o add b).2.isSome = true) : c = true :=
  addSection_elim (motive := fun r => r.2.isSome = true → c = true) c o add b nofun (fun _ hc _ _ => hc) h

/-- The table steps of `add_malformed_message` and the message it fills (as `buildQ` for a query/response).  The message data
    is stored when it holds anything: an `addOpt` on a value that is there. -/
def mmSteps (g : GMM) (b : Blk) : Blk × MMRec :=
  let r1 := addOpt true g.clientIp addIp b
  let r2 := addOpt true g.serverIp addIp r1.1
  let d : MMD := { sai := r2.2, port := g.serverPort, tf := g.transportFlags, payload := g.payload }
  let r3 := addOpt (d.sai.isSome || d.port.isSome || d.tf.isSome || d.payload.isSome) (some d) addMmd r2.1
  (r3.1, { ts := g.ts, cai := r1.2, cport := g.clientPort, mdi := r3.2 })

/-- the table part of an invariant, entry by entry: every `add` of an entry with `P` keeps it (`AllT.ins`) -/
def AllT (P : (t : Tid) → Elt t → Prop) (b : Blk) : Prop := ∀ t, ∀ x ∈ tbl t b, P t x

theorem AllT.ins {P : (t : Tid) → Elt t → Prop} {b : Blk} (hb : AllT P b) {t : Tid} {x : Elt t} (hx : P t x) : AllT P (add t b x).1 :=
  fun t' y hy => by
    rcases mem_tbl_add.1 hy with h | ⟨rfl, rfl⟩
    · exact hb t' y h
    · exact hx

theorem AllT.of_tbl_eq {P : (t : Tid) → Elt t → Prop} {b b' : Blk} (hb : AllT P b) (h : ∀ t, tbl t b' = tbl t b) : AllT P b' :=
  fun t => h t ▸ hb t

/-- The invariant `I` survives every `add` of an entry satisfying `P`.  It then survives the builder's steps (`Kept.addOpt` …
    `Kept.buildQ`, `Kept.mmSteps`), provided the entries a record puts into the tables satisfy `P`: that is what `GrrIns`,
    `SecIns`, `QIns` and `MIns` say.  `AllT P` is kept in this sense (`AllT.ins`), and `Grows b₀` whatever is added. -/
def Kept (I : Blk → Prop) (P : (t : Tid) → Elt t → Prop) : Prop := ∀ (t : Tid) {x : Elt t} {b : Blk}, P t x → I b → I (add t b x).1

theorem Grows.kept (b₀ : Blk) : Kept (Grows b₀) fun _ _ => True := fun t _ _ _ hb => hb.trans (grows_add t ..)

/-- the indexes an entry holds are arbitrary here, but an rdata index is there only under its hint -/
structure GrrIns (P : (t : Tid) → Elt t → Prop) (h : Hints) (g : GRR) : Prop where
  name : P .nr g.name
  ct : P .ct (g.type, g.cls)
  rdata : ∀ d, g.rdata = some d → P .nr d
  qrr : ∀ p, P .qrr p
  rr : ∀ i j k, (k.isSome = true → on h.rrh RrHintsMask.rdata_index = true) →
    P .rr { name := i, ct := j, ttl := keep (on h.rrh RrHintsMask.ttl) g.ttl, rdata := k }

/-- a section `l` is stored as a list of as many indexes, arbitrary as above -/
structure SecIns (P : (t : Tid) → Elt t → Prop) (h : Hints) (o : Option (List GRR)) : Prop where
  grr : ∀ l, o = some l → ∀ g ∈ l, GrrIns P h g
  ql : ∀ l, o = some l → ∀ idx : List Nat, idx.length = l.length → P .ql idx
  rl : ∀ l, o = some l → ∀ idx : List Nat, idx.length = l.length → P .rl idx

/-- the entries `buildQ h g` adds satisfy `P` (the signature whatever its three indexes, each of them there only under its hint) -/
structure QIns (P : (t : Tid) → Elt t → Prop) (h : Hints) (g : GQR) : Prop where
  clientIp : ∀ x, g.clientIp = some x → P .ip x
  serverIp : ∀ x, g.serverIp = some x → P .ip x
  classtype : ∀ x, g.classtype = some x → P .ct x
  optRdata : ∀ x, g.optRdata = some x → P .nr x
  queryName : ∀ x, g.queryName = some x → P .nr x
  bailiwick : ∀ x, g.bailiwick = some x → P .nr x
  sig : ∀ a c o, (a.isSome = true → on h.sigh QueryResponseSignatureHintsMask.server_address_index = true) →
    (c.isSome = true → on h.sigh QueryResponseSignatureHintsMask.query_classtype_index = true) →
    (o.isSome = true → on h.sigh QueryResponseSignatureHintsMask.query_opt_rdata_index = true) → P .sig (mkSig h g a c o)
  queryQuestions : SecIns P h g.queryQuestions
  queryAnswers : SecIns P h g.queryAnswers
  queryAuthority : SecIns P h g.queryAuthority
  queryAdditional : SecIns P h g.queryAdditional
  responseQuestions : SecIns P h g.responseQuestions
  responseAnswers : SecIns P h g.responseAnswers
  responseAuthority : SecIns P h g.responseAuthority
  responseAdditional : SecIns P h g.responseAdditional

/-- the entries `mmSteps g` adds satisfy `P` -/
structure MIns (P : (t : Tid) → Elt t → Prop) (g : GMM) : Prop where
  clientIp : ∀ x, g.clientIp = some x → P .ip x
  serverIp : ∀ x, g.serverIp = some x → P .ip x
  mmd : ∀ i, P .mmd { sai := i, port := g.serverPort, tf := g.transportFlags, payload := g.payload }

theorem QIns.trivial (h : Hints) (g : GQR) : QIns (fun _ _ => True) h g :=
  have sec : ∀ o, SecIns (fun _ _ => True) h o := fun _ =>
    ⟨fun _ _ _ _ => ⟨⟨⟩, ⟨⟩, fun _ _ => ⟨⟩, fun _ => ⟨⟩, fun _ _ _ _ => ⟨⟩⟩, fun _ _ _ _ => ⟨⟩, fun _ _ _ _ => ⟨⟩⟩
  ⟨fun _ _ => ⟨⟩, fun _ _ => ⟨⟩, fun _ _ => ⟨⟩, fun _ _ => ⟨⟩, fun _ _ => ⟨⟩, fun _ _ => ⟨⟩, fun _ _ _ _ _ _ => ⟨⟩,
   sec _, sec _, sec _, sec _, sec _, sec _, sec _, sec _⟩

section Kept
variable {I : Blk → Prop} {P : (t : Tid) → Elt t → Prop} {h : Hints} {b : Blk}

/-- the fold in `addGenericQlist` / `addGenericRrlist`: each step keeps `I` and returns one more index -/
theorem fold_grr (step : Blk × List Nat → GRR → Blk × List Nat) (hs : ∀ acc g, GrrIns P h g → I acc.1 → I (step acc g).1)
    (hl : ∀ acc g, (step acc g).2.length = acc.2.length + 1) (gs : List GRR) (hg : ∀ g ∈ gs, GrrIns P h g) (hb : I b) :
    I (gs.foldl step (b, [])).1 ∧ (gs.foldl step (b, [])).2.length = gs.length :=
  foldl_inv step (fun done a => I a.1 ∧ a.2.length = done.length) gs (b, []) ⟨hb, rfl⟩ fun done g a hm ha =>
    ⟨hs a g (hg g hm) ha.1, by rw [hl, ha.2, List.length_append]; rfl⟩

variable (k : Kept I P)
include k

theorem Kept.addOpt (t : Tid) (c : Bool) (o : Option (Elt t)) (ho : ∀ x, o = some x → P t x) (hb : I b) : I (addOpt c o (add t) b).1 :=
  addOpt_elim (motive := fun r v => (∀ x, v = some x → P t x) → I r.1) c o (add t) b (fun _ => hb) (fun x hv => k t (hv x rfl) hb)
    (keep_forall ho)

theorem Kept.qlist {o : Option (List GRR)} (ho : SecIns P h o) {l : List GRR} (hl : o = some l) (hb : I b) : I (addGenericQlist b l).1 :=
  have hf := fold_grr qlStep (fun _ _ hg ha => ha |> k .nr hg.name |> k .ct hg.ct |> k .qrr (hg.qrr _))
    (fun _ _ => by simp [qlStep]) l (ho.grr l hl) hb
  k .ql (ho.ql l hl _ hf.2) hf.1

theorem Kept.rrlist {o : Option (List GRR)} (ho : SecIns P h o) {l : List GRR} (hl : o = some l) (hb : I b) :
    I (addGenericRrlist h b l).1 :=
  have hf := fold_grr (rrStep h) (fun _ _ hg ha =>
      ha |> k .nr hg.name |> k .ct hg.ct |> k.addOpt .nr _ _ hg.rdata |> k .rr (hg.rr _ _ _ addOpt_isSome))
    (fun _ _ => by simp [rrStep]) l (ho.grr l hl) hb
  k .rl (ho.rl l hl _ hf.2) hf.1

theorem Kept.questions (c : Bool) {o : Option (List GRR)} (ho : SecIns P h o) (hb : I b) : I (addSection c o addGenericQlist b).1 :=
  addSection_elim (motive := fun r => I r.1) c o _ b hb fun _ _ hl => k.qlist ho hl hb

theorem Kept.rrs (c : Bool) {o : Option (List GRR)} (ho : SecIns P h o) (hb : I b) : I (addSection c o (addGenericRrlist h) b).1 :=
  addSection_elim (motive := fun r => I r.1) c o _ b hb fun _ _ hl => k.rrlist ho hl hb

theorem Kept.buildSig {g : GQR} (hg : QIns P h g) (hb : I b) : I (buildSig h g b).1 := by
  unfold Builder.buildSig
  split
  · exact hb
  · simp only [ite_eq_addOpt]
    exact hb
      |> k.addOpt .ip _ g.serverIp hg.serverIp
      |> k.addOpt .ct _ g.classtype hg.classtype
      |> k.addOpt .nr _ g.optRdata hg.optRdata
      |> k.addOpt .sig _ (some _) fun _ hx => Option.some.inj hx ▸ hg.sig _ _ _ addOpt_isSome addOpt_isSome addOpt_isSome

theorem Kept.buildQ {g : GQR} (hg : QIns P h g) (hb : I b) : I (buildQ h g b).1 :=
  hb
    |> k.addOpt .ip _ g.clientIp hg.clientIp
    |> k.buildSig hg
    |> k.addOpt .nr _ g.queryName hg.queryName
    |> k.addOpt .nr _ g.bailiwick hg.bailiwick
    |> k.questions _ hg.queryQuestions
    |> k.rrs _ hg.queryAnswers
    |> k.rrs _ hg.queryAuthority
    |> k.rrs _ hg.queryAdditional
    |> k.questions _ hg.responseQuestions
    |> k.rrs _ hg.responseAnswers
    |> k.rrs _ hg.responseAuthority
    |> k.rrs _ hg.responseAdditional

theorem Kept.mmSteps {g : GMM} (hg : MIns P g) (hb : I b) : I (mmSteps g b).1 :=
  hb
    |> k.addOpt .ip true g.clientIp hg.clientIp
    |> k.addOpt .ip true g.serverIp hg.serverIp
    |> k.addOpt .mmd _ (some _) fun _ hx => Option.some.inj hx ▸ hg.mmd _

end Kept

theorem grows_buildQ (h : Hints) (g : GQR) (b : Blk) : Grows b (buildQ h g b).1 := (Grows.kept b).buildQ (.trivial h g) (.refl b)
theorem grows_mmSteps (g : GMM) (b : Blk) : Grows b (mmSteps g b).1 :=
  (Grows.kept b).mmSteps ⟨fun _ _ => ⟨⟩, fun _ _ => ⟨⟩, fun _ => ⟨⟩⟩ (.refl b)

/-- a signature none of whose members is there is the one the reader substitutes for "no signature" -/
theorem Sig.eq_default {s : Sig} (h : s.filled = false) : s = {} := by
  cases s
  simp only [Sig.filled, Bool.or_eq_false_iff, Option.isSome_eq_false_iff, Option.isNone_iff_eq_none] at h
  simp only [h]

theorem MMD.eq_default {d : MMD} (h : (d.sai.isSome || d.port.isSome || d.tf.isSome || d.payload.isSome) = false) : d = {} := by
  cases d
  simp only [Bool.or_eq_false_iff, Option.isSome_eq_false_iff, Option.isNone_iff_eq_none] at h
  simp only [h]

theorem QRE.eq_default {e : QRE} (h : e.filled = false) : e = {} := by
  cases e
  simp only [QRE.filled, Bool.or_eq_false_iff, Option.isSome_eq_false_iff, Option.isNone_iff_eq_none] at h
  simp only [h]

theorem QRec.eq_default {q : QRec} (h : q.filled = false) : q = {} := by
  cases q
  simp only [QRec.filled, Bool.or_eq_false_iff, Option.isSome_eq_false_iff, Option.isNone_iff_eq_none] at h
  simp only [h]

theorem MMRec.eq_default {m : MMRec} (h : (m.ts.isSome || m.cai.isSome || m.cport.isSome || m.mdi.isSome) = false) : m = {} := by
  cases m
  simp only [Bool.or_eq_false_iff, Option.isSome_eq_false_iff, Option.isNone_iff_eq_none] at h
  simp only [h]

theorem updEarliest_cases (b : Blk) (ts : Option Timestamp.Ts) : updEarliest b ts = b.earliest ∨ ts = some (updEarliest b ts) := by
  unfold updEarliest
  cases ts with
  | none => exact .inl rfl
  | some t =>
    dsimp only
    split
    · exact .inr rfl
    · exact .inl rfl

-- (written out where the definition has `let`s: after `rw [addQR_eq]` the `if` must be where `split` and `rw` find it)
theorem addQR_eq (h : Hints) (g : GQR) (st : Option Stats) (b : Blk) :
    addQR h g st b = setStats (if (buildQ h g { b with earliest := updEarliest b g.ts }).2.filled = true
      then { (buildQ h g { b with earliest := updEarliest b g.ts }).1 with
              qrs := (buildQ h g { b with earliest := updEarliest b g.ts }).1.qrs ++ [(buildQ h g { b with earliest := updEarliest b g.ts }).2] }
      else (buildQ h g { b with earliest := updEarliest b g.ts }).1) st := rfl

/-- `m_address_event_counts[a]++`, on the insertion-ordered list that stands for the hash map -/
def bump (a : AEC) (l : List (AEC × Nat)) : List (AEC × Nat) :=
  if l.any (·.1 == a) then l.map fun e => if e.1 == a then (e.1, e.2 + 1) else e else l ++ [(a, 1)]

theorem keys_bump (a : AEC) (l : List (AEC × Nat)) :
    (bump a l).map (·.1) = if a ∈ l.map (·.1) then l.map (·.1) else l.map (·.1) ++ [a] := by
  have hany : l.any (·.1 == a) = true ↔ a ∈ l.map (·.1) := by simp only [List.any_eq_true, List.mem_map, beq_iff_eq]
  unfold bump
  by_cases h : a ∈ l.map (·.1)
  · rw [if_pos (hany.2 h), if_pos h, List.map_map]
    exact List.map_congr_left fun e _ => by simp only [Function.comp]; split <;> rfl
  · rw [if_neg (mt hany.1 h), if_neg h, List.map_append]; rfl

theorem mem_bump {a : AEC} {l : List (AEC × Nat)} {x : AEC × Nat} (hx : x ∈ bump a l) :
    (∃ e ∈ l, x.1 = e.1 ∧ x.2 ≤ e.2 + 1) ∨ x = (a, 1) := by
  unfold bump at hx
  split at hx
  · obtain ⟨e, he, rfl⟩ := List.mem_map.1 hx
    refine .inl ⟨e, he, ?_⟩
    split
    · exact ⟨rfl, Nat.le_refl _⟩
    · exact ⟨rfl, Nat.le_succ _⟩
  · rcases List.mem_append.1 hx with h | h
    · exact .inl ⟨x, h, rfl, Nat.le_succ _⟩
    · exact .inr (List.mem_singleton.1 h)

theorem length_bump_le (a : AEC) (l : List (AEC × Nat)) : (bump a l).length ≤ l.length + 1 := by
  unfold bump
  split
  · rw [List.length_map]; exact Nat.le_succ _
  · rw [List.length_append]; exact Nat.le_refl _

theorem addAEC_off (h : Hints) (g : GAEC) (st : Option Stats) (b : Blk) (hoff : on h.odh OtherDataHintsMask.address_event_counts = false) :
    addAEC h g st b = setStats b st := by
  unfold addAEC; simp [hoff]

/-- the key under which an address event is counted, once its address has index `i` -/
def aecKey (g : GAEC) (i : Nat) : AEC := { aeType := g.aeType, aeCode := g.aeCode, ai := i, tf := g.transportFlags }

theorem addAEC_on (h : Hints) (g : GAEC) (st : Option Stats) (b : Blk) (hon : on h.odh OtherDataHintsMask.address_event_counts = true) :
    addAEC h g st b =
      { (addIp (setStats b st) g.ip).1 with aecs := bump (aecKey g (addIp (setStats b st) g.ip).2) (addIp (setStats b st) g.ip).1.aecs } := by
  unfold addAEC bump aecKey
  simp only [hon, Bool.not_true, Bool.false_eq_true, if_false]
  split <;> rfl

theorem addMM_off (h : Hints) (g : GMM) (st : Option Stats) (b : Blk) (hoff : on h.odh OtherDataHintsMask.malformed_messages = false) :
    addMM h g st b = setStats b st := by
  unfold addMM; simp [hoff]

theorem addMM_eq (h : Hints) (g : GMM) (st : Option Stats) (b : Blk) (hon : on h.odh OtherDataHintsMask.malformed_messages = true) :
    addMM h g st b =
      let r := mmSteps g { setStats b st with earliest := updEarliest (setStats b st) g.ts }
      if (r.2.ts.isSome || r.2.cai.isSome || r.2.cport.isSome || r.2.mdi.isSome) = true then { r.1 with mms := r.1.mms ++ [r.2] } else r.1 := by
  unfold addMM mmSteps
  simp only [hon, Bool.not_true, Bool.false_eq_true, if_false, ite_eq_addOpt]

/-- `addMM_eq` with the table steps behind variables, for a user that needs of them only that they grow the block and keep
    what every `add` keeps (its goal then does not carry `mmSteps`); one that must know the steps themselves takes `addMM_eq` -/
theorem addMM_spec (h : Hints) (g : GMM) (st : Option Stats) (b : Blk) (hon : on h.odh OtherDataHintsMask.malformed_messages = true) :
    ∃ b1 cai mdi, Grows { setStats b st with earliest := updEarliest (setStats b st) g.ts } b1 ∧
      (∀ {I : Blk → Prop} {P : (t : Tid) → Elt t → Prop}, Kept I P → MIns P g →
        I { setStats b st with earliest := updEarliest (setStats b st) g.ts } → I b1) ∧
      addMM h g st b = if (g.ts.isSome || cai.isSome || g.clientPort.isSome || mdi.isSome) = true
        then { b1 with mms := b1.mms ++ [{ ts := g.ts, cai := cai, cport := g.clientPort, mdi := mdi }] } else b1 :=
  ⟨_, _, _, grows_mmSteps g _, fun k hP h0 => k.mmSteps hP h0, addMM_eq h g st b hon⟩

/-- induction over `build`: `I done b` for the records `done` added so far and the block `b` they gave -/
theorem build_ind (h : Hints) (I : List Rec → Blk → Prop) (recs : List Rec) (h0 : I [] {})
    (hs : ∀ done r b, r ∈ recs → I done b → I (done ++ [r]) (addRec h b r)) : I recs (build h recs) :=
  foldl_inv (addRec h) I recs {} h0 hs

end CdnsVerif.Model.Builder
