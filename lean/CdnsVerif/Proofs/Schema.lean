/-
  The values a struct can hold (`Conforms`) and what the writers emit for them: `need v` is enough fuel to read it back (by `rfuel_need` in
  Proofs/Denote.lean), a key survives (`intOf (intItem key) = some key`), a record held in declaration order is its own canonical form
  (`canon_id`), the output is a well-formed item (`toItem_wf`).  The round trip is drawn from these in Proofs/Denote.lean.
-/
import CdnsVerif.Model.Schema

namespace CdnsVerif.Model.Schema
open CdnsVerif.Spec.Cbor CdnsVerif.Model.Decoder

mutual
/-- fuel the reader needs for a value (depends on its shape only) -/
def need : Val → Nat
  | .list vs => 2 + needList vs
  | .record ms => 2 + needPairs ms
  | .num _ => 1
  | .str _ => 1
  | .bool _ => 1
def needList : List Val → Nat
  | [] => 0
  | v :: vs => 1 + need v + needList vs
def needPairs : List (Int × Val) → Nat
  | [] => 0
  | (_, v) :: ms => 1 + need v + needPairs ms
end

def keyOk (key : Int) : Prop := -(2 ^ 63 : Int) ≤ key ∧ key < 2 ^ 63

mutual
/-- the values a struct can hold: integers within the member's width, strings/lists shorter than
    2^64, every present member known to the schema with a conforming value -/
def Conforms : Kind → Val → Prop
  | .uint bits, .num n => 0 ≤ n ∧ n < 2 ^ bits ∧ bits ≤ 64
  | .int64, .num n => -(2 ^ 63 : Int) ≤ n ∧ n < 2 ^ 63
  | .tstr, .str b => b.length < 2 ^ 64 ∧ bytesOk b
  | .bstr, .str b => b.length < 2 ^ 64 ∧ bytesOk b
  | .bool, .bool _ => True
  | .arr k, .list vs => vs.length < 2 ^ 64 ∧ ConformsList k vs
  | .struct fs, .record ms =>
    ms.length < 2 ^ 64 ∧ ConformsPairs fs ms ∧ (ms.map (·.1)).Nodup ∧
    (fs.all fun f => !f.required || ms.any (·.1 == f.key)) = true ∧
    -- the members are held in declaration order (one slot per member of the C++ struct)
    (fs.map (·.key)).Nodup ∧ (ms.map (·.1)).Sublist (fs.map (·.key))
  | _, _ => False
def ConformsList : Kind → List Val → Prop
  | _, [] => True
  | k, v :: vs => Conforms k v ∧ ConformsList k vs
def ConformsPairs : List Field → List (Int × Val) → Prop
  | _, [] => True
  | fs, (key, v) :: ms =>
    keyOk key ∧ (∃ f, fs.find? (fun f => f.key == key) = some f ∧ Conforms f.kind v) ∧ ConformsPairs fs ms
end

theorem conformsList_of (k : Kind) (vs : List Val) (h : ∀ v ∈ vs, Conforms k v) : ConformsList k vs := by
  induction vs with
  | nil => trivial
  | cons x xs ih => exact ⟨h x List.mem_cons_self, ih fun y hy => h y (List.mem_cons_of_mem _ hy)⟩

theorem conformsPairs_of (fs : List Field) (ms : List (Int × Val))
    (h : ∀ k v, (k, v) ∈ ms → keyOk k ∧ ∃ f, fs.find? (fun f => f.key == k) = some f ∧ Conforms f.kind v) : ConformsPairs fs ms := by
  induction ms with
  | nil => trivial
  | cons p ms ih =>
    obtain ⟨k, v⟩ := p
    exact and_assoc.1 ⟨h k v List.mem_cons_self, ih fun k' v' hm => h k' v' (List.mem_cons_of_mem _ hm)⟩

theorem conforms_uint {bits n : Nat} (h : n < 2 ^ bits) (hb : bits ≤ 64) : Conforms (.uint bits) (.num (n : Int)) :=
  ⟨by omega, by exact_mod_cast h, hb⟩

theorem find_of_mem_nodup (fs : List Field) (f : Field) (hf : f ∈ fs) (hnd : (fs.map (·.key)).Nodup) :
    fs.find? (fun g => g.key == f.key) = some f := by
  induction fs with
  | nil => cases hf
  | cons g fs ih =>
    rw [List.find?_cons]
    rw [List.map_cons, List.nodup_cons] at hnd
    rcases List.mem_cons.1 hf with rfl | hmem
    · simp
    · have hne : (g.key == f.key) = false := by
        apply beq_false_of_ne
        intro he
        exact hnd.1 (he ▸ List.mem_map_of_mem (f := fun x : Field => x.key) hmem)
      rw [hne]
      exact ih hmem hnd.2

theorem toItems_length (k : Kind) (vs : List Val) : (toItems k vs).length = vs.length := by
  induction vs with
  | nil => simp [toItems]
  | cons v vs ih => simp [toItems, ih]

theorem flatten_writeBytes (k : Kind) (vs : List Val) : (vs.map (writeBytes k)).flatten = Item.encList (toItems k vs) := by
  induction vs with
  | nil => rfl
  | cons v vs ih => simp only [List.map_cons, List.flatten_cons, toItems, Item.encList, ih, writeBytes]

theorem toPairs_length (fs : List Field) (ms : List (Int × Val)) : (toPairs fs ms).length = 2 * ms.length := by
  induction ms with
  | nil => simp [toPairs]
  | cons m ms ih =>
    unfold toPairs
    split <;> simp [ih] <;> omega

theorem intItem_wf (key : Int) (h : keyOk key) : (intItem key).WF := by
  unfold intItem keyOk at *
  split <;> exact shortest_fits _ (by omega)

theorem intOf_intItem (key : Int) (h : keyOk key) : intOf (intItem key) = some key := by
  unfold intItem keyOk at *
  by_cases hn : key < 0
  · simp only [hn, if_true, intOf]
    have : ¬ ((-1 - key).toNat > int64Max) := by unfold int64Max; omega
    simp only [this, if_false]
    congr 1; omega
  · simp only [hn, if_false, intOf]
    have : ¬ (key.toNat > int64Max) := by unfold int64Max; omega
    simp only [this, if_false]
    congr 1; omega

theorem any_key (ms : List (Int × Val)) (k : Int) : ms.any (·.1 == k) = true ↔ k ∈ ms.map (·.1) := by
  simp only [List.any_eq_true, List.mem_map, beq_iff_eq]

theorem setKey_new (acc : List (Int × Val)) (k : Int) (v : Val) (h : k ∉ acc.map (·.1)) : setKey acc k v = acc ++ [(k, v)] := by
  rw [setKey, if_neg (mt (any_key acc k).1 h)]

theorem canon_cons (f : Field) (fs : List Field) (ms : List (Int × Val)) :
    canon (f :: fs) ms = match ms.find? (·.1 == f.key) with
      | none => canon fs ms
      | some m => m :: canon fs ms := by
  unfold canon
  rw [List.filterMap_cons]
  cases ms.find? (·.1 == f.key) <;> rfl

theorem canon_cons_notin (fs : List Field) (m : Int × Val) (ms : List (Int × Val)) (h : m.1 ∉ fs.map (·.key)) :
    canon fs (m :: ms) = canon fs ms := by
  induction fs with
  | nil => rfl
  | cons f fs ih =>
    rw [List.map_cons, List.mem_cons, not_or] at h
    rw [canon_cons, canon_cons, ih h.2, List.find?_cons_of_neg (by simpa using h.1)]

theorem canon_id (fs : List Field) (ms : List (Int × Val)) (hnd : (fs.map (·.key)).Nodup)
    (hsub : (ms.map (·.1)).Sublist (fs.map (·.key))) : canon fs ms = ms := by
  induction fs generalizing ms with
  | nil =>
    cases ms with
    | nil => rfl
    | cons => cases hsub
  | cons f fs ih =>
    rw [List.map_cons, List.nodup_cons] at hnd
    rw [canon_cons]
    cases ms with
    | nil => exact ih [] hnd.2 (List.nil_sublist _)
    | cons m ms =>
      rcases List.sublist_cons_iff.1 hsub with hsub' | ⟨r, hr, hsub'⟩
      · -- `f` is absent from the record
        rw [List.find?_eq_none.2 fun e he heq => hnd.1 (hsub'.subset (List.mem_map.2 ⟨e, he, by simpa using heq⟩))]
        exact ih _ hnd.2 hsub'
      · -- the first member is `f`'s
        obtain ⟨hk, rfl⟩ := List.cons.inj hr
        change m.1 = f.key at hk
        rw [List.find?_cons_of_pos (by simpa using hk), canon_cons_notin fs m ms (hk ▸ hnd.1), ih ms hnd.2 hsub']

theorem toNat_lt_of_conforms {n : Int} {bits : Nat} (h0 : 0 ≤ n) (h1 : n < 2 ^ bits) : n.toNat < 2 ^ bits :=
  (Int.toNat_lt h0).2 (by exact_mod_cast h1)

mutual
theorem toItem_wf : ∀ (k : Kind) (v : Val), Conforms k v → (toItem k v).WF
  | .uint bits, .num x, hc =>
    shortest_fits _ (Nat.lt_of_lt_of_le (toNat_lt_of_conforms hc.1 hc.2.1) (Nat.pow_le_pow_right (by decide) hc.2.2))
  | .int64, .num x, hc => intItem_wf _ hc
  | .tstr, .str b, hc | .bstr, .str b, hc => ⟨shortest_fits _ hc.1, hc.2⟩
  | .bool, .bool b, _ => by cases b <;> simp [toItem, Item.WF]
  | .arr ek, .list vs, hc => by
    simp only [toItem, Item.WF, toItems_length]
    exact ⟨shortest_fits _ hc.1, toItems_wf ek vs hc.2⟩
  | .struct fs, .record ms, hc => by
    simp only [toItem, Item.WF, toPairs_length]
    exact ⟨by rw [Nat.mul_div_cancel_left _ Nat.zero_lt_two]; exact shortest_fits _ hc.1, by omega, toPairs_wf fs ms hc.2.1⟩
theorem toItems_wf : ∀ (k : Kind) (vs : List Val), ConformsList k vs → Item.WFList (toItems k vs)
  | _, [], _ => trivial
  | k, v :: vs, hc => ⟨toItem_wf k v hc.1, toItems_wf k vs hc.2⟩
theorem toPairs_wf : ∀ (fs : List Field) (ms : List (Int × Val)), ConformsPairs fs ms → Item.WFList (toPairs fs ms)
  | _, [], _ => trivial
  | fs, (key, v) :: ms, hc => by
    obtain ⟨hk, ⟨f, hf, hcv⟩, hrest⟩ := hc
    unfold toPairs
    rw [hf]
    exact ⟨intItem_wf key hk, toItem_wf f.kind v hcv, toPairs_wf fs ms hrest⟩
end

def WFS (n : Nat) : Prop :=
  (∀ k v, need v ≤ n → Conforms k v → (toItem k v).WF) ∧
  (∀ k vs, needList vs ≤ n → ConformsList k vs → Item.WFList (toItems k vs)) ∧
  (∀ fs ms, needPairs ms ≤ n → ConformsPairs fs ms → Item.WFList (toPairs fs ms))

theorem wfs_all (n : Nat) : WFS n :=
  ⟨fun k v _ => toItem_wf k v, fun k vs _ => toItems_wf k vs, fun fs ms _ => toPairs_wf fs ms⟩

end CdnsVerif.Model.Schema
