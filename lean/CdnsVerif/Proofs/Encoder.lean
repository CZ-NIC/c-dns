/-
  The encoder writes RFC 8949 preferred heads: `write_int` computes the head of the shortest width, or nothing (return 0) when there is no
  room for it (`writeInt_eq`); the buffer invariant `EncSt.Inv` under `flush` and `push`; what each kind of write call accepted (`Wrote`).
  The property theorems are in Props/C06.lean and Props/C10.lean.
-/
import CdnsVerif.Model.Encoder

namespace CdnsVerif.Model.Encoder
open CdnsVerif.Spec.Cbor

-- generated obligations: the constants the translator extracted
theorem bufferSize_ge_9 : 9 ≤ bufferSize := by decide
theorem tUnsigned_eq : tUnsigned = mUint * 32 := by decide
theorem tNegative_eq : tNegative = mNint * 32 := by decide
theorem tByteString_eq : tByteString = mBstr * 32 := by decide
theorem tTextString_eq : tTextString = mTstr * 32 := by decide
theorem tArray_eq : tArray = mArr * 32 := by decide
theorem tMap_eq : tMap = mMap * 32 := by decide
theorem tTag_eq : tTag = mTag * 32 := by decide
theorem tSimple_eq : tSimple = mSimple * 32 := by decide
theorem tBreak_eq : tBreak = breakByte := by decide

theorem or_major (m v : Nat) (hm : m < 8) (hv : v < 32) : (m * 32 ||| v) % 256 = m * 32 + v := by
  -- the low five bits of `m·32` are clear
  rw [Nat.mul_comm, show 32 = 2 ^ 5 from rfl, ← Nat.two_pow_add_eq_or_of_lt (i := 5) hv m, Nat.mod_eq_of_lt (by omega)]

/-- the two cascades test the same bounds (`≤ 23` / `< 24`, …); in each of the five ranges both sides compute -/
theorem writeInt_eq (avail v major : Nat) :
    writeInt avail v major =
      if 1 + (shortest v).nbytes ≤ avail then u8 (major ||| (shortest v).ai v) :: be (shortest v).nbytes v else [] := by
  have e : ∀ k, v ≤ k ↔ v < k + 1 := fun k => Nat.lt_succ_iff.symm
  unfold writeInt shortest
  simp only [e, Nat.reduceAdd, Nat.reducePow]
  by_cases h1 : v < 24
  · simp [h1, Width.ai, Width.nbytes, be]
  by_cases h2 : v < 256
  · simp [h1, h2, Width.ai, Width.nbytes, be, u8]
  by_cases h3 : v < 65536
  · simp [h1, h2, h3, Width.ai, Width.nbytes, be, u8, Nat.shiftRight_eq_div_pow]
  by_cases h4 : v < 4294967296 <;> simp [h1, h2, h3, h4, Width.ai, Width.nbytes, be, u8, Nat.shiftRight_eq_div_pow]

theorem writeInt_preferred (avail v m : Nat) (hm : m < 8) (hv : v < 2 ^ 64) (ha : (preferredHead m v).length ≤ avail) :
    writeInt avail v (m * 32) = preferredHead m v := by
  rw [preferredHead, head_length] at ha
  rw [writeInt_eq, if_pos ha, u8, or_major m _ hm (ai_lt _ v (shortest_fits v hv))]
  rfl

def EncSt.Inv (s : EncSt) : Prop := s.buf.length ≤ bufferSize

theorem init_inv : EncSt.init.Inv := by simp [EncSt.Inv, EncSt.init]

theorem flush_stream (s : EncSt) : (flush s).stream = s.stream := by
  unfold flush EncSt.stream
  split <;> simp

theorem flush_inv (s : EncSt) (h : s.Inv) : (flush s).Inv := by
  unfold flush
  split
  · exact Nat.zero_le _
  · exact h

theorem flush_buf (s : EncSt) : (flush s).buf = [] := by
  unfold flush
  split
  · rfl
  · rename_i h; simpa using h

theorem flush_avail (s : EncSt) : (flush s).avail = bufferSize := by
  simp [EncSt.avail, flush_buf]

theorem push_stream (s : EncSt) (bs : Bytes) : (push s bs).stream = s.stream ++ bs := by
  simp [push, EncSt.stream]

theorem push_inv (s : EncSt) (bs : Bytes) (h : bs.length ≤ s.avail) (hs : s.Inv) : (push s bs).Inv := by
  unfold EncSt.Inv EncSt.avail push at *
  simp; omega

theorem push_avail (s : EncSt) (bs : Bytes) : (push s bs).avail = s.avail - bs.length := by
  simp [push, EncSt.avail]; omega

/-- `if (m_avail < need) flush_buffer();` loses nothing and leaves room for `need ≤ 9` bytes -/
theorem ensure_spec (s : EncSt) (hs : s.Inv) (need : Nat) (hn : need ≤ 9) :
    ∃ s1, (if s.avail < need then flush s else s) = s1 ∧ need ≤ s1.avail ∧ s1.stream = s.stream ∧ s1.Inv := by
  have := bufferSize_ge_9
  refine ⟨_, rfl, ?_⟩
  split
  · exact ⟨by rw [flush_avail]; omega, flush_stream s, flush_inv s hs⟩
  · exact ⟨by omega, rfl, hs⟩

/-- the call that returned `r` from state `s` accepted exactly `bs`: the stream grew by `bs`, the return value is the
    number of bytes, the state stays well-formed -/
def Wrote (r : EncSt × Nat) (s : EncSt) (bs : Bytes) : Prop :=
  r.1.stream = s.stream ++ bs ∧ r.2 = bs.length ∧ r.1.Inv

/-- The callers' thresholds 2/3/5/9 are `1 + w.nbytes` for the width `w` of the parameter type: whatever fits `w` has room,
    so the preferred head is written whole. -/
theorem writeHead_spec (s : EncSt) (hs : s.Inv) (w : Width) (v : Nat) (h : w.fits v) (m : Nat) (hm : m < 8) :
    Wrote (writeHead s (1 + w.nbytes) v (m * 32)) s (preferredHead m v) := by
  obtain ⟨s1, e, ha, hst, hi⟩ := ensure_spec s hs (1 + w.nbytes) (by cases w <;> decide)
  have hl := preferred_shortest m v w h
  rw [head_length] at hl
  have hw := writeInt_preferred s1.avail v m hm (Nat.lt_of_lt_of_le h (by cases w <;> decide)) (by omega)
  unfold Wrote writeHead
  simp only [e, hw, push_stream, hst, true_and]
  exact push_inv _ _ (by omega) hi

theorem writeByte_spec (s : EncSt) (hs : s.Inv) (m v : Nat) (hm : m < 8) (hv : v < 32) :
    Wrote (writeByte s (m * 32 ||| v)) s [m * 32 + v] := by
  obtain ⟨s1, e, ha, hst, hi⟩ := ensure_spec s hs 1 (by omega)
  unfold Wrote writeByte
  simp only [e, show ¬ s1.avail < 1 by omega, if_false, push_stream, hst, u8, or_major m v hm hv, true_and]
  exact ⟨rfl, push_inv _ _ ha hi⟩

theorem writeStringLoop_spec (fuel : Nat) (s : EncSt) (str : Bytes) (hs : s.Inv)
    (hf : str.length + 2 ≤ fuel ∨ (str.length + 1 ≤ fuel ∧ 0 < s.avail)) :
    (writeStringLoop fuel s str).stream = s.stream ++ str ∧ (writeStringLoop fuel s str).Inv := by
  -- `hf`: only an iteration that finds `avail = 0` copies nothing, and only the first can: a flush leaves room
  induction fuel generalizing s str with
  | zero => omega
  | succ fuel ih =>
    unfold writeStringLoop
    split
    · have hpi : (push s (str.take s.avail)).Inv := by
        apply push_inv _ _ _ hs
        simp [List.length_take]; omega
      have hfi := flush_inv _ hpi
      have hav : (flush (push s (List.take s.avail str))).avail = bufferSize := flush_avail _
      have h9 := bufferSize_ge_9
      have := ih (flush (push s (str.take s.avail))) (str.drop s.avail) hfi (by
        right
        simp only [List.length_drop, hav]
        omega)
      rw [this.1, flush_stream, push_stream, List.append_assoc, List.take_append_drop]
      exact ⟨rfl, this.2⟩
    · exact ⟨push_stream s str, push_inv s str (by omega) hs⟩

theorem writeString_spec (s : EncSt) (str : Bytes) (hs : s.Inv) :
    (writeString s str).stream = s.stream ++ str ∧ (writeString s str).Inv :=
  writeStringLoop_spec _ s str hs (Or.inl (Nat.le_refl _))

theorem writeStr_spec (s : EncSt) (hs : s.Inv) (m : Nat) (hm : m < 8) (str : Bytes)
    (hl : str.length < 2 ^ 64) : Wrote (writeStr s (m * 32) str) s (preferredHead m str.length ++ str) := by
  unfold Wrote writeStr
  have h : Wrote (writeHead s 9 str.length (m * 32)) s _ := writeHead_spec s hs .w8 _ hl m hm
  generalize writeHead s 9 str.length (m * 32) = r at *
  obtain ⟨s1, w⟩ := r
  simp only [Wrote] at h ⊢
  have h2 := writeString_spec s1 str h.2.2
  simp only [h2.1, h.1, h.2.1, List.append_assoc, List.length_append, true_and]
  exact h2.2

theorem bitNot64_neg (v : Int) (h1 : v < 0) (h2 : -(2 ^ 64) ≤ v) : bitNot64 v = (-1 - v).toNat := by
  unfold bitNot64
  congr 1
  omega

theorem writeSigned_eq (s : EncSt) (need : Nat) (v : Int) :
    writeSigned s need v =
      if v < 0 then writeHead s need (bitNot64 v) tNegative else writeHead s need v.toNat tUnsigned := by
  unfold writeSigned writeHead
  by_cases h : v < 0
  · simp only [h, if_true]
  · simp only [h, if_false]

theorem writeSigned_spec (s : EncSt) (hs : s.Inv) (w : Width) (v : Int)
    (h : w.fits (if v < 0 then (-1 - v).toNat else v.toNat)) :
    Wrote (writeSigned s (1 + w.nbytes) v) s (if v < 0 then preferredHead mNint (-1 - v).toNat else preferredHead mUint v.toNat) := by
  rw [writeSigned_eq]
  by_cases hneg : v < 0
  · simp only [hneg, if_true] at h ⊢
    have : (-1 - v).toNat < 2 ^ 64 := Nat.lt_of_lt_of_le h (by cases w <;> decide)
    rw [bitNot64_neg v hneg (by omega), tNegative_eq]
    exact writeHead_spec s hs w _ h mNint (by decide)
  · simp only [hneg, if_false] at h ⊢
    rw [tUnsigned_eq]
    exact writeHead_spec s hs w _ h mUint (by decide)

end CdnsVerif.Model.Encoder
