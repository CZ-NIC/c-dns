/-
  The byte-level struct reader computes the denotation: on every well-formed encoding `i` with `denote k i = some v`, `readVal` returns
  `v` and stops exactly behind the item – `readers_denote`, one induction on the fuel, stated with the fuel the readers themselves
  need (`rfuel`).  `rd_all` is the same with the kind-independent fuel `steps + cfuel` (Props/C08.lean), `rt_all` its instance at what
  the writers emit, which `need v` covers (Props/C09.lean).
-/
import CdnsVerif.Proofs.ReaderLoop
import CdnsVerif.Proofs.DenoteWrite
import CdnsVerif.Props.C07

namespace CdnsVerif.Model.Schema
open CdnsVerif.Spec.Cbor CdnsVerif.Model.Decoder CdnsVerif.Props

mutual
/-- fuel the readers spend below the call that reads `i` as kind `k`: one per loop iteration plus what the member costs –
    reading it if the schema knows its key, skipping it (`skipItem (3 * fuel + 2)`) if not; a chunked string costs its chunks -/
def rfuel : Kind → Item → Nat
  | .tstr, .tstrI cs | .bstr, .bstrI cs => cs.length + 1
  | .arr k, .arr _ items | .arr k, .arrI items => 1 + rfuelList k items
  | .struct fs, .map _ items | .struct fs, .mapI items => 1 + rfuelPairs fs items
  | _, _ => 0
def rfuelList : Kind → List Item → Nat
  | _, [] => 0
  | k, i :: is => 1 + rfuel k i + rfuelList k is
def rfuelPairs : List Field → List Item → Nat
  | fs, kI :: vI :: rest =>
    match intOf kI with
    | none => 0
    | some key =>
      match fs.find? (fun f => f.key == key) with
      | some f => 1 + rfuel f.kind vI + rfuelPairs fs rest
      | none => 1 + (steps vI + cfuel vI) + rfuelPairs fs rest
  | _, _ => 0
end

theorem run_readVal_arr {fuel : Nat} {ek : Kind} {bs r1 r : Bytes} {len : Nat} {indef : Bool} {vs : List Val}
    (h1 : readArrayStart.run bs = .ok ((len, indef), r1)) (h2 : (readElems fuel ek len indef []).run r1 = .ok (vs, r)) :
    (readVal (fuel + 1) (.arr ek)).run bs = .ok (.list vs, r) := by
  simp only [readVal]
  rw [Prog.run_bind_ok h1]
  exact Prog.run_bind_pure _ h2

theorem run_readVal_struct {fuel : Nat} {fs : List Field} {bs r1 r : Bytes} {len : Nat} {indef : Bool} {ms : List (Int × Val)}
    (h1 : readMapStart.run bs = .ok ((len, indef), r1)) (h2 : (readFields fuel fs len indef []).run r1 = .ok (ms, r))
    (hreq : (fs.all fun f => !f.required || ms.any (·.1 == f.key)) = true) :
    (readVal (fuel + 1) (.struct fs)).run bs = .ok (.record (canon fs ms), r) := by
  simp only [readVal]
  rw [Prog.run_bind_ok h1, Prog.run_bind_ok h2]
  simp only [hreq, if_true]
  rfl

theorem denoteList_cons (k : Kind) (i : Item) (is : List Item) (vs : List Val) (h : denoteList k (i :: is) = some vs) :
    ∃ v vs', denote k i = some v ∧ denoteList k is = some vs' ∧ vs = v :: vs' := by
  simp only [denoteList] at h
  split at h
  · rename_i v vs' h1 h2
    simp only [Option.some.injEq] at h
    exact ⟨v, vs', h1, h2, h.symm⟩
  · cases h

theorem denotePairs_cons (fs : List Field) (kI vI : Item) (rest : List Item) (acc out : List (Int × Val))
    (h : denotePairs fs (kI :: vI :: rest) acc = some out) :
    ∃ key, intOf kI = some key ∧
      ((∃ f v, fs.find? (fun f => f.key == key) = some f ∧ denote f.kind vI = some v ∧
          denotePairs fs rest (setKey acc key v) = some out) ∨
       (fs.find? (fun f => f.key == key) = none ∧ denotePairs fs rest acc = some out)) := by
  simp only [denotePairs] at h
  split at h
  · cases h
  · rename_i key hk
    refine ⟨key, hk, ?_⟩
    split at h
    · rename_i f hf
      split at h
      · rename_i v hv
        exact Or.inl ⟨f, v, hf, hv, h⟩
      · cases h
    · rename_i hf
      exact Or.inr ⟨hf, h⟩

/-- `readVal`, then `readElems` and `readFields` on both framings (`len` announced iterations, or any `len` and a break behind the last one) -/
theorem readers_denote (fuel : Nat) :
    (∀ k i v rest, i.WF → denote k i = some v → rfuel k i < fuel → (readVal fuel k).run (i.enc ++ rest) = .ok (v, rest)) ∧
    (∀ k items vs acc rest len indef, Item.WFList items → denoteList k items = some vs → rfuelList k items < fuel →
        (indef = false → len = items.length) →
        (readElems fuel k len indef acc).run (Item.encList items ++ closing indef rest) = .ok (acc ++ vs, rest)) ∧
    (∀ fs items acc out rest len indef, Item.WFList items → denotePairs fs items acc = some out → rfuelPairs fs items < fuel →
        (indef = false → len = items.length / 2) →
        (readFields fuel fs len indef acc).run (Item.encList items ++ closing indef rest) = .ok (out, rest)) := by
  induction fuel with
  | zero =>
    exact ⟨fun _ _ _ _ _ _ h => absurd h (Nat.not_lt_zero _), fun _ _ _ _ _ _ _ _ _ h => absurd h (Nat.not_lt_zero _),
      fun _ _ _ _ _ _ _ _ _ h => absurd h (Nat.not_lt_zero _)⟩
  | succ fuel ih =>
    obtain ⟨ihV, ihE, ihF⟩ := ih
    refine ⟨?_, ?_, ?_⟩
    · -- `readVal`, along the clauses of `denote`: 1 `uint`, 2–3 `int64`, 4–7 `tstr`, `bstr` (definite, chunked each), 8–10 `bool`
      -- (20, 21, other), 11–12 `arr` (definite, indefinite), 13–15 `struct` on a definite map (all required members found / one
      -- missing / a member fails: `fun_cases` hands over which), 16–18 on an indefinite map, 19 no clause applies
      intro k i v rest hwf hd hf
      fun_cases denote k i
      case case1 bits w n => cases hd; exact Prog.run_bind_pure _ (C07.readUnsigned_accepts w n hwf rest)
      case case2 | case3 =>
        rw [denote_int64] at hd
        obtain ⟨key, hk, rfl⟩ := Option.map_eq_some_iff.1 hd
        exact Prog.run_bind_pure _ (C07.readInteger_accepts _ key hk hwf rest)
      case case4 w b => cases hd; exact Prog.run_bind_pure _ (C07.readTextstring_accepts w b hwf.1 fuel rest)
      case case5 cs =>
        cases hd
        exact Prog.run_bind_pure _ (C07.readTextstring_accepts_chunked cs hwf fuel (by simp only [rfuel] at hf; omega) rest)
      case case6 w b => cases hd; exact Prog.run_bind_pure _ (C07.readBytestring_accepts w b hwf.1 fuel rest)
      case case7 cs =>
        cases hd
        exact Prog.run_bind_pure _ (C07.readBytestring_accepts_chunked cs hwf fuel (by simp only [rfuel] at hf; omega) rest)
      case case8 => cases hd; exact Prog.run_bind_pure _ (C07.readBool_accepts false rest)
      case case9 => cases hd; exact Prog.run_bind_pure _ (C07.readBool_accepts true rest)
      case case10 n h20 h21 => simp [denote, h20, h21] at hd
      case case11 ek w items =>
        obtain ⟨vs, hvs, rfl⟩ := Option.map_eq_some_iff.1 hd
        exact run_readVal_arr (C07.readArrayStart_accepts w items hwf.1 rest)
          (ihE ek items vs [] rest _ false hwf.2 hvs (by simp only [rfuel] at hf; omega) fun _ => rfl)
      case case12 ek items =>
        obtain ⟨vs, hvs, rfl⟩ := Option.map_eq_some_iff.1 hd
        refine run_readVal_arr (C07.readArrayStart_accepts_indef items rest) ?_
        rw [List.append_assoc]
        exact ihE ek items vs [] rest 0 true hwf hvs (by simp only [rfuel] at hf; omega) nofun
      case case13 fs w items ms hms hreq =>
        simp only [denote, hms, hreq, if_true, Option.some.injEq] at hd
        subst hd
        exact run_readVal_struct (C07.readMapStart_accepts w items hwf.1 rest)
          (ihF fs items [] ms rest _ false hwf.2.2 hms (by simp only [rfuel] at hf; omega) fun _ => rfl) hreq
      case case14 fs w items ms hms hreq | case17 fs items ms hms hreq => simp [denote, hms, hreq] at hd
      case case15 fs w items hms | case18 fs items hms => simp [denote, hms] at hd
      case case16 fs items ms hms hreq =>
        simp only [denote, hms, hreq, if_true, Option.some.injEq] at hd
        subst hd
        refine run_readVal_struct (C07.readMapStart_accepts_indef items rest) ?_ hreq
        rw [List.append_assoc]
        exact ihF fs items [] ms rest 0 true hwf.2 hms (by simp only [rfuel] at hf; omega) nofun
      -- the equation of the last clause has one premise per earlier clause (it is not that one): `case19` holds them
      case case19 => rw [denote] at hd; cases hd; all_goals assumption
    · intro k items vs acc rest len indef hwf hd hf hlen
      rw [readElems_eq]
      cases items with
      | nil => cases hd; rw [List.append_nil]; exact loopHead_done len indef acc _ rest hlen
      | cons i is =>
        obtain ⟨v, vs', h1, h2, rfl⟩ := denoteList_cons k i is vs hd
        simp only [rfuelList] at hf
        rw [Item.encList, List.append_assoc, loopHead_item len indef acc _ i hwf.1 _ fun h => by rw [hlen h]; simp,
          Prog.run_bind_ok (ihV k i v _ hwf.1 h1 (by omega)),
          ihE k is vs' (acc ++ [v]) rest (len - 1) indef hwf.2 h2 (by omega) fun h => by rw [hlen h]; rfl]
        simp
    · intro fs items acc out rest len indef hwf hd hf hlen
      rw [readFields_eq]
      match items, hwf, hd, hf, hlen with
      | [], _, hd, _, hlen => cases hd; exact loopHead_done len indef acc _ rest hlen
      | [_], _, hd, _, _ => cases hd
      | kI :: vI :: items, hwf, hd, hf, hlen =>
        obtain ⟨key, hkey, hcase⟩ := denotePairs_cons fs kI vI items acc out hd
        simp only [rfuelPairs, hkey] at hf
        simp only [Item.encList, List.append_assoc]
        rw [loopHead_item len indef acc _ kI hwf.1 _ fun h => by rw [hlen h, List.length_cons, List.length_cons]; omega]
        unfold fieldStep
        rw [Prog.run_bind_ok (C07.readInteger_accepts kI key hkey hwf.1 _)]
        have hrec := fun acc' h' hfuel => ihF fs items acc' out rest (len - 1) indef hwf.2.2 h' hfuel
          fun h => by rw [hlen h, List.length_cons, List.length_cons]; omega
        rcases hcase with ⟨f, v, hfind, hden, hrest⟩ | ⟨hfind, hrest⟩
        · simp only [hfind] at hf ⊢
          rw [Prog.run_bind_ok (ihV f.kind vI v _ hwf.2.1 hden (by omega))]
          exact hrec _ hrest (by omega)
        · simp only [hfind] at hf ⊢
          -- the skip is given `3 * fuel + 2`, all that `skipItem` can use on `fuel` bytes of input (`Fuel.skipItem_adequate`),
          -- so that its fuel never binds before the readers' own does; `hf` leaves `steps vI + cfuel vI < fuel`
          rw [Prog.run_bind_ok (C07.skip_exact vI hwf.2.1 (3 * fuel + 2) (by omega) (by omega) _)]
          exact hrec _ hrest (by omega)

theorem rfuel_le :
    (∀ k i, rfuel k i < steps i + cfuel i) ∧ (∀ k items, rfuelList k items ≤ stepsList items + cfuelList items) ∧
    (∀ fs items, rfuelPairs fs items ≤ stepsList items + cfuelList items) := by
  -- `mutual_induct` concludes with the members before the elements.  Its cases: 1–6 the clauses of `rfuel`, 7 any other kind and item;
  -- of `rfuelPairs`: 8 the key is no integer, 9 a known key, 10 an unknown one, 11 fewer than two items; 12–13 `rfuelList`
  refine And.imp_right And.symm ?_
  apply rfuel.mutual_induct
  case case1 | case2 | case3 | case4 | case5 | case6 => intros; simp only [rfuel, steps, cfuel]; omega
  -- any item but a chunked string or a container costs the readers nothing (`case7` holds the premises of that equation)
  case case7 => intro i k _ _ _ _ _ _; rw [rfuel]; exact Nat.lt_of_lt_of_le (steps_pos i) (Nat.le_add_right _ _); all_goals assumption
  case case8 => intro fs kI vI rest hk; simp only [rfuelPairs, hk]; omega
  -- a member: the step of its key pays for the iteration
  case case9 | case10 =>
    intro fs kI
    intros
    have := steps_pos kI
    simp only [rfuelPairs, stepsList, cfuelList, *]; omega
  case case11 => intro items fs h; rw [rfuelPairs]; exact Nat.zero_le _; exact h
  case case12 => intro k; exact Nat.le_refl _
  case case13 => intro k i is ih1 ih2; simp only [rfuelList, stepsList, cfuelList]; omega

/-- the five statements with the kind-independent fuel `steps + cfuel` (what skipping the item takes) -/
def RD (fuel : Nat) : Prop :=
  (∀ k i v rest, i.WF → denote k i = some v → steps i + cfuel i ≤ fuel →
      (readVal fuel k).run (i.enc ++ rest) = .ok (v, rest)) ∧
  (∀ k items vs acc rest, Item.WFList items → denoteList k items = some vs → stepsList items + cfuelList items + 1 ≤ fuel →
      (readElems fuel k items.length false acc).run (Item.encList items ++ rest) = .ok (acc ++ vs, rest)) ∧
  (∀ k items vs acc rest n, Item.WFList items → denoteList k items = some vs → stepsList items + cfuelList items + 1 ≤ fuel →
      (readElems fuel k n true acc).run (Item.encList items ++ breakByte :: rest) = .ok (acc ++ vs, rest)) ∧
  (∀ fs items acc out rest, Item.WFList items → items.length % 2 = 0 → denotePairs fs items acc = some out →
      stepsList items + cfuelList items + 1 ≤ fuel →
      (readFields fuel fs (items.length / 2) false acc).run (Item.encList items ++ rest) = .ok (out, rest)) ∧
  (∀ fs items acc out rest n, Item.WFList items → items.length % 2 = 0 → denotePairs fs items acc = some out →
      stepsList items + cfuelList items + 1 ≤ fuel →
      (readFields fuel fs n true acc).run (Item.encList items ++ breakByte :: rest) = .ok (out, rest))

theorem rd_all (fuel : Nat) : RD fuel := by
  obtain ⟨rV, rE, rF⟩ := readers_denote fuel
  obtain ⟨lV, lE, lF⟩ := rfuel_le
  exact ⟨fun k i v rest hwf hd hf => rV k i v rest hwf hd (Nat.lt_of_lt_of_le (lV k i) hf),
    fun k items vs acc rest hwf hd hf => rE k items vs acc rest _ false hwf hd (Nat.lt_of_le_of_lt (lE k items) hf) fun _ => rfl,
    fun k items vs acc rest n hwf hd hf => rE k items vs acc rest n true hwf hd (Nat.lt_of_le_of_lt (lE k items) hf) nofun,
    fun fs items acc out rest hwf _ hd hf => rF fs items acc out rest _ false hwf hd (Nat.lt_of_le_of_lt (lF fs items) hf) fun _ => rfl,
    fun fs items acc out rest n hwf _ hd hf => rF fs items acc out rest n true hwf hd (Nat.lt_of_le_of_lt (lF fs items) hf) nofun⟩

theorem rfuel_need :
    (∀ k v, Conforms k v → rfuel k (toItem k v) < need v) ∧
    (∀ k vs, ConformsList k vs → rfuelList k (toItems k vs) ≤ needList vs) ∧
    (∀ fs ms, ConformsPairs fs ms → rfuelPairs fs (toPairs fs ms) ≤ needPairs ms) := by
  -- `mutual_induct` again concludes with the members before the elements.  Its cases: 1–5 the scalars, 6 `arr`, 7 `struct`,
  -- 8 an ill-typed value; 9–10 `ConformsList` of `[]` and `v :: vs`; 11–12 `ConformsPairs` of `[]` and `(key, v) :: ms`
  refine And.imp_right And.symm ?_
  apply Conforms.mutual_induct
  case case2 => intro x _; simp only [toItem, intItem]; split <;> exact Nat.zero_lt_one
  case case1 | case3 | case4 | case5 => intros; exact Nat.zero_lt_one
  case case6 => intro ek vs ih hc; have := ih hc.2; simp only [toItem, rfuel, need]; omega
  case case7 => intro fs ms ih hc; have := ih hc.2.1; simp only [toItem, rfuel, need]; omega
  case case8 => intro v k _ _ _ _ _ _ _ hc; rw [Conforms] at hc; exact hc.elim; all_goals assumption
  case case9 | case11 => intros; exact Nat.le_refl _
  case case10 =>
    intro k v vs ih1 ih2 hc
    have := ih1 hc.1
    have := ih2 hc.2
    simp only [toItems, rfuelList, needList]; omega
  case case12 =>
    intro fs key v ms ih1 ih2 hc
    obtain ⟨hk, ⟨f, hf, hcv⟩, hrest⟩ := hc
    have := ih1 f hcv
    have := ih2 hrest
    unfold toPairs
    simp only [rfuelPairs, intOf_intItem key hk, hf, needPairs]; omega

/-- the three statements about what the writers emit, with the value's own fuel `need` -/
def RT (fuel : Nat) : Prop :=
  (∀ k v rest, Conforms k v → need v ≤ fuel → (readVal fuel k).run ((toItem k v).enc ++ rest) = .ok (v, rest)) ∧
  (∀ k vs acc rest, ConformsList k vs → needList vs + 1 ≤ fuel →
      (readElems fuel k vs.length false acc).run (Item.encList (toItems k vs) ++ rest) = .ok (acc ++ vs, rest)) ∧
  (∀ fs ms acc rest, ConformsPairs fs ms → (acc.map (·.1) ++ ms.map (·.1)).Nodup → needPairs ms + 1 ≤ fuel →
      (readFields fuel fs ms.length false acc).run (Item.encList (toPairs fs ms) ++ rest) = .ok (acc ++ ms, rest))

theorem rt_all (fuel : Nat) : RT fuel := by
  obtain ⟨rV, rE, rF⟩ := readers_denote fuel
  obtain ⟨lV, lE, lF⟩ := rfuel_need
  exact ⟨fun k v rest hc hn => rV k _ v rest (toItem_wf k v hc) (denote_toItem k v hc) (Nat.lt_of_lt_of_le (lV k v hc) hn),
    fun k vs acc rest hc hn => rE k _ vs acc rest _ false (toItems_wf k vs hc) (denoteList_toItems k vs hc)
      (Nat.lt_of_le_of_lt (lE k vs hc) hn) fun _ => (toItems_length k vs).symm,
    fun fs ms acc rest hc hnd hn => rF fs _ acc _ rest _ false (toPairs_wf fs ms hc) (denotePairs_toPairs fs ms acc hc hnd)
      (Nat.lt_of_le_of_lt (lF fs ms hc) hn) fun _ => by rw [toPairs_length]; omega⟩

end CdnsVerif.Model.Schema
