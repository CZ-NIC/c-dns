/-
  What the reader materialises is bounded by what it consumed (C03, "memory proportional to the input"), for EVERY byte sequence.
  `vsize v` counts one unit per scalar, string byte, list element and record member.  For every schema without a repeated key, every
  fuel and every input, reading a value pays for its size: `Prog.Pays (readVal f k) vsize` (`readers_pay`), whatever the length
  fields announce.  (The capacity *reserved* ahead of reading is `Props.C03.reserve_bounded`.)
-/
import CdnsVerif.Proofs.Lists
import CdnsVerif.Proofs.ReaderLoop
import CdnsVerif.Proofs.Schema
namespace CdnsVerif.Proofs.Alloc
open CdnsVerif.Spec.Cbor CdnsVerif.Model CdnsVerif.Model.Decoder CdnsVerif.Model.Schema CdnsVerif.Proofs.Fuel
open CdnsVerif.Model.Prog (Pays)

mutual
def vsize : Val → Nat
  | .num _ => 1
  | .bool _ => 1
  | .str b => 1 + b.length
  | .list vs => 1 + vsizeL vs
  | .record ms => 1 + vsizeM ms
def vsizeL : List Val → Nat
  | [] => 0
  | v :: vs => vsize v + vsizeL vs
def vsizeM : List (Int × Val) → Nat
  | [] => 0
  | (_, v) :: ms => vsize v + vsizeM ms
end

theorem vsizeL_append (a b : List Val) : vsizeL (a ++ b) = vsizeL a + vsizeL b := by
  induction a with
  | nil => simp [vsizeL]
  | cons x xs ih => simp [vsizeL, ih, Nat.add_assoc]

theorem vsizeM_append (a b : List (Int × Val)) : vsizeM (a ++ b) = vsizeM a + vsizeM b := by
  induction a with
  | nil => simp [vsizeM]
  | cons x xs ih => simp [vsizeM, ih, Nat.add_assoc]

theorem readN_len (n : Nat) (bs r out : Bytes) (h : (readN n).run bs = .ok (out, r)) : out.length + r.length = bs.length := by
  rw [readN_split h, List.length_append]

theorem readChunks_len (major : Nat) : ∀ (f : Nat) (bs r out : Bytes), (readChunks major f).run bs = .ok (out, r) →
    out.length + r.length ≤ bs.length :=
  fun f bs r out h => pays_readChunks major f bs out r h

abbrev keysOf (ms : List (Int × Val)) : List Int := ms.map (·.1)

theorem map_replace_absent (k : Int) (v : Val) (l : List (Int × Val)) (h : k ∉ keysOf l) :
    l.map (fun e => if e.1 == k then (k, v) else e) = l :=
  (List.map_congr_left fun e he => if_neg fun hk => h (List.mem_map.2 ⟨e, he, beq_iff_eq.1 hk⟩)).trans (List.map_id' l)

theorem vsizeM_replace (k : Int) (v : Val) : ∀ (l : List (Int × Val)), (keysOf l).Nodup →
    vsizeM (l.map (fun e => if e.1 == k then (k, v) else e)) ≤ vsizeM l + vsize v
  | [], _ => by simp [vsizeM]
  | (k', v') :: rest, h => by
    simp only [keysOf, List.map_cons, List.nodup_cons] at h
    simp only [List.map_cons]
    by_cases hk : (k' == k) = true
    · have hkk : k' = k := by simpa using hk
      simp only [hk, if_true, vsizeM]
      rw [map_replace_absent k v rest (by rw [← hkk]; exact h.1)]
      omega
    · simp only [hk, Bool.false_eq_true, if_false, vsizeM]
      have := vsizeM_replace k v rest h.2
      omega

theorem keys_replace (k : Int) (v : Val) (l : List (Int × Val)) :
    keysOf (l.map (fun e => if e.1 == k then (k, v) else e)) = keysOf l := by
  simp only [keysOf, List.map_map]
  refine List.map_congr_left fun e _ => ?_
  show (if e.1 == k then (k, v) else e).1 = e.1
  split
  · rename_i h; exact (beq_iff_eq.1 h).symm
  · rfl

theorem setKey_spec (acc : List (Int × Val)) (k : Int) (v : Val) (h : (keysOf acc).Nodup) :
    (keysOf (setKey acc k v)).Nodup ∧ vsizeM (setKey acc k v) ≤ vsizeM acc + vsize v := by
  unfold setKey
  split
  · exact ⟨by rw [keys_replace]; exact h, vsizeM_replace k v acc h⟩
  · rename_i hany
    refine ⟨?_, by rw [vsizeM_append]; simp [vsizeM]⟩
    rw [keysOf, List.map_append]
    exact nodup_concat h (mt (any_key acc k).2 hany)

theorem vsizeM_sublist {l₁ l₂ : List (Int × Val)} (h : l₁.Sublist l₂) : vsizeM l₁ ≤ vsizeM l₂ := by
  induction h with
  | slnil => exact Nat.le_refl _
  | cons a _ ih => simp only [vsizeM]; omega
  | cons_cons a _ ih => simp only [vsizeM]; omega

theorem vsizeM_filter_or (p q : Int × Val → Bool) : ∀ (ms : List (Int × Val)),
    vsizeM (ms.filter fun x => p x || q x) = vsizeM (ms.filter q) + vsizeM (ms.filter fun x => p x && !q x)
  | [] => rfl
  | (k, v) :: rest => by
    have ih := vsizeM_filter_or p q rest
    simp only [List.filter_cons]
    cases p (k, v) <;> cases q (k, v) <;> simp [vsizeM, ih] <;> omega

/-- the struct keeps, per declared member, at most one of the members read: never more than was read -/
theorem vsizeM_canon : ∀ (fs : List Field) (ms : List (Int × Val)), (fs.map (·.key)).Nodup →
    vsizeM (canon fs ms) ≤ vsizeM (ms.filter (fun m => fs.any (fun f => f.key == m.1)))
  | [], ms, _ => by simp [canon, vsizeM]
  | f :: fs', ms, h => by
    simp only [List.map_cons, List.nodup_cons] at h
    have ih := vsizeM_canon fs' ms h.2
    -- the members with a key of `f :: fs'` are those with a key of `fs'` and those with the key of `f` only
    have hsplit := vsizeM_filter_or (fun x => f.key == x.1) (fun x => fs'.any fun g => g.key == x.1) ms
    show vsizeM (canon (f :: fs') ms) ≤ vsizeM (ms.filter fun x => (f.key == x.1) || fs'.any fun g => g.key == x.1)
    rw [canon_cons, hsplit]
    cases hf : ms.find? (fun m => m.1 == f.key) with
    | none => exact Nat.le_trans ih (Nat.le_add_right _ _)
    | some m =>
      -- `m` is one of those with the key of `f` only: no member of `fs'` has that key
      obtain ⟨mk, mv⟩ := m
      have hkey : mk = f.key := by simpa using List.find?_some hf
      have hq : (fs'.any fun g => g.key == mk) = false := by
        rw [Bool.eq_false_iff, hkey]
        intro hany
        obtain ⟨g, hg, hgk⟩ := List.any_eq_true.1 hany
        exact h.1 (by rw [← beq_iff_eq.1 hgk]; exact List.mem_map_of_mem hg)
      have : vsize mv ≤ vsizeM (ms.filter fun x => (f.key == x.1) && !(fs'.any fun g => g.key == x.1)) :=
        vsizeM_sublist (List.singleton_sublist.2 (List.mem_filter.2 ⟨List.mem_of_find?_eq_some hf, by rw [hq, hkey]; simp⟩))
      simp only [vsizeM]
      omega

mutual
/-- no struct inside the kind declares a key twice: `canon` hands out one member per declared key, so a key declared twice would
    put one member read into the value twice (`vsizeM_canon`) -/
def kindOk : Kind → Bool
  | .arr k => kindOk k
  | .struct fs => decide ((fs.map (·.key)).Nodup) && fieldsOk fs
  | _ => true
def fieldsOk : List Field → Bool
  | [] => true
  | .mk _ kd _ :: fs => kindOk kd && fieldsOk fs
end

theorem fieldsOk_mem : ∀ (fs : List Field) (f : Field), fieldsOk fs = true → f ∈ fs → kindOk f.kind = true
  | [], f, _, h => by cases h
  | .mk k kd r :: fs, f, hok, h => by
    simp only [fieldsOk, Bool.and_eq_true] at hok
    rcases List.mem_cons.mp h with rfl | hin
    · exact hok.1
    · exact fieldsOk_mem fs f hok.2 hin

theorem pays_loopHead {α : Type} {len : Nat} {indef : Bool} {acc : α} {body : Prog α} {w : α → Nat}
    (hacc : w acc = 0) (hb : Pays body w) : Pays (loopHead len indef acc body) w :=
  .ite (.pure hacc) (.ite (.bind (.free _) fun t => .ite (.bind (.free _) fun _ => .pure hacc) hb) hb)

theorem readers_pay : ∀ f : Nat,
    (∀ k : Kind, kindOk k = true → Pays (readVal f k) vsize) ∧
    (∀ (k : Kind) (len : Nat) (indef : Bool) (acc : List Val), kindOk k = true →
      Pays (readElems f k len indef acc) fun vs => vsizeL vs - vsizeL acc) ∧
    (∀ (fs : List Field) (len : Nat) (indef : Bool) (acc : List (Int × Val)), fieldsOk fs = true → (keysOf acc).Nodup →
      Pays (readFields f fs len indef acc) fun ms => vsizeM ms - vsizeM acc)
  | 0 => ⟨fun _ _ => .throw, fun _ _ _ _ _ => .throw, fun _ _ _ _ _ _ => .throw⟩
  | f+1 => by
    obtain ⟨ihV, ihE, ihF⟩ := readers_pay f
    refine ⟨fun k hk => ?_, fun k len indef acc hk => ?_, fun fs len indef acc hfs hacc => ?_⟩
    · cases k with
      | uint bits => exact .bind (.of_isNext isNext_readUnsigned) fun _ => .pure rfl
      | int64 => exact .bind pays_readInteger fun _ => .pure rfl
      | bool => exact .bind (.of_isNext isNext_readBool) fun _ => .pure rfl
      | tstr | bstr => exact .bind (pays_readStr _ _) fun b => .pure (by simp only [vsize]; omega)
      | arr ek =>
        refine .bind (.of_isNext (isNext_readStart _)) fun ⟨len, indef⟩ =>
          .bind (ihE ek len indef [] (by simpa [kindOk] using hk)) fun vs => .pure ?_
        simp only [vsize, vsizeL]; omega
      | struct fs =>
        simp only [kindOk, Bool.and_eq_true, decide_eq_true_eq] at hk
        refine .bind (.of_isNext (isNext_readStart _)) fun ⟨len, indef⟩ =>
          .bind (ihF fs len indef [] hk.2 (by simp [keysOf])) fun ms => .ite (.pure ?_) .throw
        have hc := Nat.le_trans (vsizeM_canon fs ms hk.1) (vsizeM_sublist List.filter_sublist)
        simp only [vsize, vsizeM]; omega
    · rw [readElems_eq]
      refine pays_loopHead (Nat.sub_self _) (.bind (ihV k hk) fun v => (ihE k (len - 1) indef (acc ++ [v]) hk).mono fun vs => ?_)
      rw [vsizeL_append]; simp only [vsizeL]; omega
    · rw [readFields_eq]
      refine pays_loopHead (Nat.sub_self _) (.bind pays_readInteger fun key => ?_)
      cases hg : fs.find? (fun f => f.key == key) with
      | some g =>
        refine .bind (ihV g.kind (fieldsOk_mem fs g hfs (List.mem_of_find?_eq_some hg))) fun v => ?_
        -- a member overwritten by a later duplicate stops counting
        have hs := setKey_spec acc key v hacc
        exact (ihF fs (len - 1) indef _ hfs hs.1).mono fun ms => by omega
      | none => exact .bind (.free _) fun _ => (ihF fs (len - 1) indef acc hfs hacc).mono fun ms => by omega

end CdnsVerif.Proofs.Alloc
