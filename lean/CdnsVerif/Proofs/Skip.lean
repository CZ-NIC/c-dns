/-
  `skip_item()` consumes exactly one data item (the property theorem is `skip_exact` in Props/C07.lean).  `steps i` and `cfuel i` are the
  loop iterations and the chunk-loop fuel it needs for `i`, both linear in the input length.  `skipHead_eq` puts the head handling in
  normal form – refuse the head (`rejected`) or read its argument, then the string content (`content`), then go on with the levels the
  head opens (`opened`); `SkipOK i` says what the loop does with `i` under any open levels, proved by induction over the syntax (`skipOK`).
-/
import CdnsVerif.Proofs.Decoder

namespace CdnsVerif.Model.Decoder
open CdnsVerif.Spec.Cbor

mutual
/-- loop iterations `skip_item()` spends on an item: one to read its head, and for each level the head opens (`opened`) one more, which takes
    that level off again when it is used up or the stop code comes.  A definite-length map opens two levels, the other containers and a tag one. -/
def steps : Item → Nat
  | .arr _ items => stepsList items + 2
  | .arrI items => stepsList items + 2
  | .map _ items => stepsList items + 3
  | .mapI items => stepsList items + 2
  | .tag _ _ c => steps c + 2
  | .uint _ _ => 1
  | .nint _ _ => 1
  | .bstr _ _ => 1
  | .bstrI _ => 1
  | .tstr _ _ => 1
  | .tstrI _ => 1
  | .simple _ => 1
  | .simple1 _ => 1
  | .f16 _ => 1
  | .f32 _ => 1
  | .f64 _ => 1
def stepsList : List Item → Nat
  | [] => 0
  | i :: is => steps i + stepsList is
end

theorem steps_pos (i : Item) : 1 ≤ steps i := by cases i <;> simp [steps]

mutual
theorem steps_le (i : Item) : steps i ≤ 3 * i.enc.length := by
  cases i with
  | tag _ _ c => have := steps_le c; simp [steps, Item.enc, head_length]; omega
  | arr _ items | arrI items | map _ items | mapI items =>
    have := stepsList_le items; simp [steps, Item.enc, head_length, indefHead]; omega
  | _ => simp [steps, Item.enc, head_length, indefHead] <;> omega
theorem stepsList_le (items : List Item) : stepsList items ≤ 3 * (Item.encList items).length := by
  match items with
  | [] => simp [stepsList, Item.encList]
  | i :: is => have := steps_le i; have := stepsList_le is; simp [stepsList, Item.encList]; omega
end

mutual
/-- chunk-loop fuel needed by the strings inside an item -/
def cfuel : Item → Nat
  | .bstrI cs => cs.length + 1
  | .tstrI cs => cs.length + 1
  | .arr _ items => cfuelList items
  | .arrI items => cfuelList items
  | .map _ items => cfuelList items
  | .mapI items => cfuelList items
  | .tag _ _ c => cfuel c
  | .uint _ _ => 0
  | .nint _ _ => 0
  | .bstr _ _ => 0
  | .tstr _ _ => 0
  | .simple _ => 0
  | .simple1 _ => 0
  | .f16 _ => 0
  | .f32 _ => 0
  | .f64 _ => 0
def cfuelList : List Item → Nat
  | [] => 0
  | i :: is => cfuel i + cfuelList is
end

mutual
theorem cfuel_le (i : Item) : cfuel i ≤ i.enc.length := by
  cases i with
  | bstrI cs => have := encChunks_length mBstr cs; simp [cfuel, Item.enc, indefHead]; omega
  | tstrI cs => have := encChunks_length mTstr cs; simp [cfuel, Item.enc, indefHead]; omega
  | tag _ _ c => have := cfuel_le c; simp [cfuel, Item.enc]; omega
  | arr _ items | arrI items | map _ items | mapI items => have := cfuelList_le items; simp [cfuel, Item.enc]; omega
  | _ => simp [cfuel]
theorem cfuelList_le (items : List Item) : cfuelList items ≤ (Item.encList items).length := by
  match items with
  | [] => simp [cfuelList, Item.encList]
  | i :: is => have := cfuel_le i; have := cfuelList_le is; simp [cfuelList, Item.encList]; omega
end

/-- the level still takes an item: its length is indefinite, or some are left -/
def Level.ready (top : Level) : Prop := top.indef = true ∨ top.left ≠ 0

/-- a definite-length level with `n` items left -/
def dlevel (n : Nat) : Level := ⟨n, false, false, false⟩

theorem dlevel_after (n : Nat) : (dlevel (n + 1)).after = dlevel n := by simp [dlevel, Level.after]

theorem skipLoop_enter (sf n : Nat) (top : Level) (L : List Level) (b : Nat) (tl : Bytes)
    (hb : b ≠ 255) (hr : top.ready) :
    (skipLoop sf (n + 1) (top :: L)).run (b :: tl) =
      (skipHead sf (top.after :: L) (skipLoop sf n)).run (b :: tl) := by
  rw [skipLoop]
  by_cases hi : top.indef = true
  · simp only [hi, if_true]
    rw [run_peekType_bind]
    have h1 : ¬ (b = tBreak) := by rw [tBreak_eq]; exact hb
    have h2 : ¬ (b / 32 * 32 = tBreak) := by rw [tBreak_eq]; omega
    simp only [h1, h2, if_false]
  · simp only [hi, hr.resolve_left hi, if_false, Bool.false_eq_true]

theorem skipLoop_pop (sf n : Nat) (top : Level) (L : List Level) (bs : Bytes)
    (hi : top.indef = false) (hl : top.left = 0) :
    (skipLoop sf (n + 1) (top :: L)).run bs = (skipLoop sf n L).run bs := by
  rw [skipLoop]
  simp [hi, hl]

theorem skipLoop_break (sf n : Nat) (top : Level) (L : List Level) (rest : Bytes)
    (hi : top.indef = true) (hv : (top.map && top.value) = false) :
    (skipLoop sf (n + 1) (top :: L)).run (breakByte :: rest) = (skipLoop sf n L).run rest := by
  rw [skipLoop]
  simp only [hi, if_true]
  rw [peek_break]
  simp [hv]

/-- heads `skip_item()` refuses: a reserved additional information, an indefinite length on a major type that has none,
    a type code that is none of the eight -/
def rejected (t ai : Nat) : Prop :=
  if t = tUnsigned ∨ t = tNegative ∨ t = tTag then 28 ≤ ai
  else if t = tSimple ∨ t = tByteString ∨ t = tTextString ∨ t = tArray ∨ t = tMap then 28 ≤ ai ∧ ai ≤ 30
  else True

instance (t ai : Nat) : Decidable (rejected t ai) := by unfold rejected; infer_instance

def content (t : Nat) (indef : Bool) (n fuel : Nat) : Prog Bytes :=
  if t = tByteString ∨ t = tTextString then readString t n indef fuel else pure []

def opened (t : Nat) (indef : Bool) (n : Nat) : List Level :=
  if t = tTag then [Level.one]
  else if t = tArray ∨ t = tMap then
    if indef then [⟨0, true, t == tMap, false⟩]
    else if t = tMap then [dlevel n, dlevel n] else [dlevel n]
  else []

theorem content_str (m : Nat) (hm : m = mBstr ∨ m = mTstr) (indef : Bool) (n sf : Nat) :
    content (m * 32) indef n sf = readString (m * 32) n indef sf := by
  rcases hm with rfl | rfl <;> rfl

theorem opened_length (t : Nat) (indef : Bool) (n : Nat) : (opened t indef n).length ≤ 2 := by
  unfold opened
  repeat' split
  all_goals simp

/-- The branches of `skipHead` differ only in which heads they refuse, whether a string content follows the argument,
    and which levels they push.  For each of the eight type codes both sides compute to the same program. -/
theorem skipHead_eq (fuel : Nat) (lv : List Level) (k : List Level → Prog Unit) :
    skipHead fuel lv k = (do
      let (t, ai) ← readCborType
      if rejected t ai then .throw .decoder
      else do
        let n ← readInt ai
        let _ ← content t (ai == 31) n fuel
        k (opened t (ai == 31) n ++ lv)) := by
  unfold skipHead
  congr 1
  funext ⟨t, ai⟩
  by_cases h : t = tUnsigned ∨ t = tNegative ∨ t = tTag ∨ t = tSimple ∨ t = tByteString ∨ t = tTextString ∨ t = tArray ∨ t = tMap
  · rcases h with rfl | rfl | rfl | rfl | rfl | rfl | rfl | rfl
    · rfl
    · rfl
    · rfl
    · rfl
    · rfl
    · rfl
    -- array and map: `read_int` is not called for an indefinite length, where it would return 0 without reading
    all_goals
      by_cases h31 : ai = 31
      · subst h31
        rfl
      · simp +decide only [rejected, content, opened, h31, beq_iff_eq, if_true, if_false]
        rfl
  · simp only [not_or] at h
    simp only [rejected, h, or_self, if_false, if_true]

theorem not_rejected (m a : Nat) (hm : m < 8) (ha : a ≤ 27) : ¬ rejected (m * 32) a := by
  unfold rejected
  split
  · omega
  · split
    · omega
    · rename_i h1 h2
      simp only [tUnsigned_eq, tNegative_eq, tTag_eq, tSimple_eq, tByteString_eq, tTextString_eq, tArray_eq, tMap_eq,
        mUint, mNint, mTag, mSimple, mBstr, mTstr, mArr, mMap] at h1 h2
      omega

theorem run_skipHead (m a : Nat) (ha : a < 32) (h : ¬ rejected (m * 32) a) (sf : Nat) (lv : List Level)
    (k : List Level → Prog Unit) (bs : Bytes) :
    (skipHead sf lv k).run ((m * 32 + a) :: bs) =
      (do let n ← readInt a; let _ ← content (m * 32) (a == 31) n sf; k (opened (m * 32) (a == 31) n ++ lv)).run bs := by
  rw [skipHead_eq, Prog.run_bind_ok (run_readCborType_add m a ha bs)]
  simp only [h, if_false]

theorem skipHead_head (m : Nat) (hm : m < 8) (w : Width) (n : Nat) (h : w.fits n) (sf : Nat) (lv : List Level)
    (k : List Level → Prog Unit) (rest : Bytes) :
    (skipHead sf lv k).run (head m w n ++ rest) =
      (do let _ ← content (m * 32) false n sf; k (opened (m * 32) false n ++ lv)).run rest := by
  have ha := ai_le_27 w n h
  rw [head_cons, List.cons_append, run_skipHead m _ (ai_lt w n h) (not_rejected m _ hm ha),
    Prog.run_bind_ok (run_readInt w n h rest), show (w.ai n == 31) = false from beq_false_of_ne (by omega)]

/-- an indefinite head: `read_int(31)` reads nothing -/
theorem skipHead_indefHead (m : Nat) (h : ¬ rejected (m * 32) 31) (sf : Nat) (lv : List Level)
    (k : List Level → Prog Unit) (rest : Bytes) :
    (skipHead sf lv k).run (indefHead m ++ rest) =
      (do let _ ← content (m * 32) true 0 sf; k (opened (m * 32) true 0 ++ lv)).run rest :=
  run_skipHead m 31 (by omega) h sf lv k rest

/-- in `steps i` iterations the loop takes `i` off the input and counts it on the top level -/
def SkipOK (i : Item) : Prop :=
  ∀ (sf f : Nat) (top : Level) (L : List Level) (rest : Bytes), top.ready → cfuel i ≤ sf →
    (skipLoop sf (steps i + f) (top :: L)).run (i.enc ++ rest) = (skipLoop sf f (top.after :: L)).run rest

/-- the loop takes `items` through the definite-length levels `ds.map dlevel` (`[n]` behind an array head, `[n, n]` behind that of a
    map of `n` pairs) and takes each level off when it is used up -/
theorem skip_levels (ds : List Nat) (items : List Item) (H : ∀ i ∈ items, SkipOK i) (sf f : Nat) (L : List Level)
    (rest : Bytes) (hsf : cfuelList items ≤ sf) (hlen : items.length = ds.sum) :
    (skipLoop sf (stepsList items + (ds.length + f)) (ds.map dlevel ++ L)).run (Item.encList items ++ rest) =
      (skipLoop sf f L).run rest := by
  induction ds generalizing items with
  | nil =>
    obtain rfl : items = [] := List.eq_nil_of_length_eq_zero hlen
    simp [stepsList, Item.encList]
  | cons d ds ihd =>
    induction d generalizing items with
    | zero =>
      rw [show stepsList items + ((0 :: ds).length + f) = (stepsList items + (ds.length + f)) + 1 by
        rw [List.length_cons]; omega]
      exact (skipLoop_pop _ _ _ _ _ rfl rfl).trans (ihd items H hsf (by simpa using hlen))
    | succ d ih =>
      match items, H, hsf, hlen with
      | [], _, _, hlen => simp at hlen; omega
      | i :: is, H, hsf, hlen =>
        simp only [stepsList, Item.encList, cfuelList, List.length_cons, List.sum_cons, List.map_cons, List.cons_append] at *
        rw [List.append_assoc, Nat.add_assoc, H i (by simp) sf _ (dlevel (d + 1)) _ _ (.inr (Nat.succ_ne_zero d)) (by omega),
          dlevel_after]
        exact ih is (fun j hj => H j (by simp [hj])) (by omega) (by omega)

/-- `hv`: a map's level waits for a value exactly when an odd number of its items is still to come; the stop code is refused while it does -/
theorem skip_indef (items : List Item) (H : ∀ i ∈ items, SkipOK i) (sf f : Nat) (mp v : Bool) (L : List Level)
    (rest : Bytes) (hsf : cfuelList items ≤ sf) (hv : mp = true → (v = true ↔ items.length % 2 = 1)) :
    (skipLoop sf (stepsList items + (f + 1)) (⟨0, true, mp, v⟩ :: L)).run (Item.encList items ++ breakByte :: rest) =
      (skipLoop sf f L).run rest := by
  induction items generalizing v with
  | nil =>
    rw [stepsList, Nat.zero_add]
    refine skipLoop_break sf f ⟨0, true, mp, v⟩ L rest rfl ?_
    cases mp <;> cases v <;> simp at hv ⊢
  | cons i is ih =>
    simp only [stepsList, Item.encList, List.length_cons, cfuelList] at *
    rw [List.append_assoc, Nat.add_assoc, H i (by simp) sf _ ⟨0, true, mp, v⟩ L _ (.inl rfl) (by omega)]
    refine ih (fun j hj => H j (by simp [hj])) (!v) (by omega) fun h => ?_
    have := hv h
    cases v <;> simp at this ⊢ <;> omega

mutual
theorem skipOK (i : Item) (hwf : i.WF) : SkipOK i := by
  intro sf f top L rest hr hsf
  obtain ⟨b, tl, he, hb⟩ := enc_first i hwf
  have enter : ∀ n, (skipLoop sf (n + 1) (top :: L)).run (i.enc ++ rest) =
      (skipHead sf (top.after :: L) (skipLoop sf n)).run (i.enc ++ rest) := by
    intro n; rw [he, List.cons_append]; exact skipLoop_enter sf n top L b _ hb hr
  -- three kinds of item cost one iteration and open no level: a head alone, a head and its bytes, a chunked string
  have leaf : ∀ m w n, m = mUint ∨ m = mNint ∨ m = mSimple → w.fits n → i.enc = head m w n → steps i = 1 →
      (skipLoop sf (steps i + f) (top :: L)).run (i.enc ++ rest) = (skipLoop sf f (top.after :: L)).run rest := by
    intro m w n hm h he hs
    rw [hs, Nat.add_comm, enter, he, skipHead_head m (by rcases hm with rfl | rfl | rfl <;> decide) w n h]
    rcases hm with rfl | rfl | rfl <;> rfl
  have str : ∀ m w bs, m = mBstr ∨ m = mTstr → w.fits bs.length → i.enc = head m w bs.length ++ bs → steps i = 1 →
      (skipLoop sf (steps i + f) (top :: L)).run (i.enc ++ rest) = (skipLoop sf f (top.after :: L)).run rest := by
    intro m w bs hm h he hs
    rw [hs, Nat.add_comm, enter, he, List.append_assoc, skipHead_head m (by rcases hm with rfl | rfl <;> decide) w _ h,
      content_str m hm, Prog.run_bind_ok (run_readString_def _ bs rest sf)]
    rcases hm with rfl | rfl <;> rfl
  have strI : ∀ m cs, m = mBstr ∨ m = mTstr → chunksWF cs → i.enc = indefHead m ++ encChunks m cs ++ [breakByte] →
      steps i = 1 → cs.length + 1 ≤ sf →
      (skipLoop sf (steps i + f) (top :: L)).run (i.enc ++ rest) = (skipLoop sf f (top.after :: L)).run rest := by
    intro m cs hm hcs he hs hc
    rw [hs, Nat.add_comm, enter, he, List.append_assoc, List.append_assoc, List.singleton_append,
      skipHead_indefHead m (by rcases hm with rfl | rfl <;> decide),
      content_str m hm, Prog.run_bind_ok (run_readString_indef m cs hcs 0 sf hc rest)]
    rcases hm with rfl | rfl <;> rfl
  cases i with
  | uint w n => exact leaf mUint w n (.inl rfl) hwf rfl rfl
  | nint w n => exact leaf mNint w n (.inr (.inl rfl)) hwf rfl rfl
  | simple n => exact leaf mSimple .imm n (.inr (.inr rfl)) hwf rfl rfl
  | simple1 n => exact leaf mSimple .w1 n (.inr (.inr rfl)) hwf.2 (enc_simple1 n hwf.2) rfl
  | f16 bits => exact leaf mSimple .w2 bits (.inr (.inr rfl)) hwf rfl rfl
  | f32 bits => exact leaf mSimple .w4 bits (.inr (.inr rfl)) hwf rfl rfl
  | f64 bits => exact leaf mSimple .w8 bits (.inr (.inr rfl)) hwf rfl rfl
  | bstr w bs => exact str mBstr w bs (.inl rfl) hwf.1 rfl rfl
  | tstr w bs => exact str mTstr w bs (.inr rfl) hwf.1 rfl rfl
  | bstrI cs => exact strI mBstr cs (.inl rfl) hwf rfl rfl hsf
  | tstrI cs => exact strI mTstr cs (.inr rfl) hwf rfl rfl hsf
  | tag w n c =>
    rw [show steps (.tag w n c) + f = (steps c + (f + 1)) + 1 by simp [steps]; omega, enter, Item.enc,
      List.append_assoc, skipHead_head mTag (by decide) w n hwf.1]
    show (skipLoop sf (steps c + (f + 1)) (Level.one :: top.after :: L)).run (c.enc ++ rest) = _
    rw [skipOK c hwf.2 sf (f + 1) Level.one _ rest (.inr Nat.one_ne_zero) (by simpa [cfuel] using hsf)]
    exact skipLoop_pop _ _ _ _ _ rfl rfl
  | arr w items =>
    rw [show steps (.arr w items) + f = (stepsList items + (1 + f)) + 1 by simp [steps]; omega, enter, Item.enc,
      List.append_assoc, skipHead_head mArr (by decide) w _ hwf.1]
    exact skip_levels [items.length] items (skipOKList items hwf.2) sf f _ rest (by simpa [cfuel] using hsf) rfl
  | arrI items =>
    rw [show steps (.arrI items) + f = (stepsList items + (f + 1)) + 1 by simp [steps]; omega, enter, Item.enc,
      List.append_assoc, List.append_assoc, skipHead_indefHead mArr (by decide)]
    exact skip_indef items (skipOKList items hwf) sf f false false _ rest (by simpa [cfuel] using hsf) (fun h => nomatch h)
  | map w items =>
    rw [show steps (.map w items) + f = (stepsList items + (2 + f)) + 1 by simp [steps]; omega, enter, Item.enc,
      List.append_assoc, skipHead_head mMap (by decide) w _ hwf.1]
    exact skip_levels [items.length / 2, items.length / 2] items (skipOKList items hwf.2.2) sf f _ rest
      (by simpa [cfuel] using hsf) (by have := hwf.2.1; simp; omega)
  | mapI items =>
    rw [show steps (.mapI items) + f = (stepsList items + (f + 1)) + 1 by simp [steps]; omega, enter, Item.enc,
      List.append_assoc, List.append_assoc, skipHead_indefHead mMap (by decide)]
    exact skip_indef items (skipOKList items hwf.2) sf f true false _ rest (by simpa [cfuel] using hsf)
      (fun _ => by have := hwf.1; simp; omega)
theorem skipOKList (items : List Item) (hwf : Item.WFList items) : ∀ i ∈ items, SkipOK i := by
  match items, hwf with
  | [], _ => exact fun _ hi => nomatch hi
  | x :: xs, hwf => exact List.forall_mem_cons.2 ⟨skipOK x hwf.1, skipOKList xs hwf.2⟩
end

theorem wfList_mem (items : List Item) (h : Item.WFList items) : ∀ i ∈ items, i.WF := by
  induction items with
  | nil => exact fun _ hi => nomatch hi
  | cons x xs ih => exact List.forall_mem_cons.2 ⟨h.1, ih h.2⟩

end CdnsVerif.Model.Decoder
