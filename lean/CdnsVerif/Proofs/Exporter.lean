/-
  Lemmas of `Model.Exporter` (C10, C12, C13; the exporter of C16 is another model, `Model.Stack`, and no theorem relates the two).
  Every call is an edit of the buffered block (`edit`), then block writes (`writeBlock`), then for a rotation the closing of the
  output (`closeOut`): `step_ind` makes that a proof principle, `run_ind` carries a property along a history.
-/
import CdnsVerif.Model.Exporter

-- `retBytes` is C10's (Props/C10.lean states its theorems with it); it is declared here because `step_ind` speaks of what a call reports
namespace CdnsVerif.Props.C10
open CdnsVerif.Model.Exporter

def retBytes : Res → Nat
  | .bytes n => n
  | _ => 0

end CdnsVerif.Props.C10

namespace CdnsVerif.Model.Exporter
open CdnsVerif.Props.C10 (retBytes)

variable (hdr : Nat → Nat) (bsz : Block → Nat)

@[simp] theorem retBytes_bytes (n : Nat) : retBytes (.bytes n) = n := rfl

@[simp] theorem setStats_pi (b : Block) (st : Option Nat) : (setStats b st).pi = b.pi := by cases st <;> rfl
@[simp] theorem setStats_qrs (b : Block) (st : Option Nat) : (setStats b st).qrs = b.qrs := by cases st <;> rfl
@[simp] theorem setStats_aecs (b : Block) (st : Option Nat) : (setStats b st).aecs = b.aecs := by cases st <;> rfl
@[simp] theorem setStats_mms (b : Block) (st : Option Nat) : (setStats b st).mms = b.mms := by cases st <;> rfl

theorem items_eq_zero {b : Block} (h : b.items = 0) : b.qrs = [] ∧ b.aecs = [] ∧ b.mms = [] := by
  unfold Block.items at h
  refine ⟨?_, ?_, ?_⟩ <;> apply List.eq_nil_of_length_eq_zero <;> omega

@[simp] theorem writeBlock_cur (s : ExpSt) : (writeBlock hdr bsz s).1.cur = emptyBlock s.active := by
  unfold writeBlock; split <;> rfl
@[simp] theorem writeBlock_psets (s : ExpSt) : (writeBlock hdr bsz s).1.psets = s.psets := by
  unfold writeBlock; split <;> rfl
@[simp] theorem writeBlock_active (s : ExpSt) : (writeBlock hdr bsz s).1.active = s.active := by
  unfold writeBlock; split <;> rfl
@[simp] theorem writeBlock_done (s : ExpSt) : (writeBlock hdr bsz s).1.done = s.done := by
  unfold writeBlock; split <;> rfl
theorem writeBlock_out_bytes (s : ExpSt) : (writeBlock hdr bsz s).1.out.bytes = s.out.bytes + (writeBlock hdr bsz s).2 := by
  unfold writeBlock; split <;> rfl
theorem writeBlock_out_blocks (s : ExpSt) :
    (writeBlock hdr bsz s).1.out.blocks = s.out.blocks ++ (if s.cur.items = 0 then [] else [s.cur]) := by
  unfold writeBlock; split <;> simp

theorem writeBlock_of_empty {s : ExpSt} (h : s.cur.items = 0) :
    writeBlock hdr bsz s = ({ s with cur := emptyBlock s.active }, 0) := if_pos h

/-- the buffered block once a call has put its record into it, before anything is flushed -/
def edit (s : ExpSt) : Op → Block
  | .qr id stored st => setStats (if stored then { s.cur with qrs := s.cur.qrs ++ [id] } else s.cur) st
  | .aec key st =>
    let c := setStats s.cur st
    if (pset s s.cur.pi).aecOn then { c with aecs := bumpAec key c.aecs } else c
  | .mm id stored st =>
    let c := setStats s.cur st
    if (pset s s.cur.pi).mmOn && stored then { c with mms := c.mms ++ [id] } else c
  | _ => s.cur

@[simp] theorem edit_pi (s : ExpSt) (op : Op) : (edit s op).pi = s.cur.pi := by
  cases op <;> simp only [edit, setStats_pi] <;> split <;> simp

theorem bumpAec_length (k : Nat) (l : List (Nat × Nat)) : (bumpAec k l).length ≤ l.length + 1 := by
  induction l with
  | nil => simp [bumpAec]
  | cons x xs ih =>
    unfold bumpAec
    split
    · simp
    · simpa using ih

theorem edit_length (s : ExpSt) (op : Op) :
    (edit s op).qrs.length ≤ s.cur.qrs.length + 1 ∧ (edit s op).aecs.length ≤ s.cur.aecs.length + 1 ∧
    (edit s op).mms.length ≤ s.cur.mms.length + 1 := by
  have := bumpAec_length
  cases op <;> simp only [edit] <;> (try split) <;> simp [*]

/-- the rest of `CdnsExporter::rotate_output` (src/cdns.h) after the optional `write_block()`: the break if `m_blocks_written > 0`,
    the counter reset, the switch of outputs; `step` has it inline (`step_rotate`) -/
def closeOut (s : ExpSt) : ExpSt × Nat :=
  let brk := if s.blocksWritten > 0 then 1 else 0
  ({ s with done := s.done ++ [{ s.out with bytes := s.out.bytes + brk, closed := true }],
            out := ⟨[], 0, 0, false⟩, blocksWritten := 0 }, brk)

theorem step_rotate (s : ExpSt) (ex : Bool) :
    step hdr bsz s (.rotate ex) =
      ((closeOut (if ex then writeBlock hdr bsz s else (s, 0)).1).1,
        .bytes ((if ex then writeBlock hdr bsz s else (s, 0)).2 + (closeOut (if ex then writeBlock hdr bsz s else (s, 0)).1).2)) := by
  cases ex <;> rfl

/-- `P t n`: the call has brought the exporter to `t` and has `n` bytes to report so far.  `start` serves every call but `addParams` and an
    accepted `setActive` (for `writeBlock`, `rotate` and a refused `setActive`, `edit s op = s.cur` and the state is `s`); `write` serves
    `writeBlock`, `rotate true` and the flush of a full block after `qr`/`aec`/`mm`; `close` serves `rotate`.  The premises do not say that a
    rotation closes once and last: a statement that counts outputs splits on the call and takes `step_rotate`. -/
theorem step_ind {P : ExpSt → Nat → Prop} (s : ExpSt) (op : Op)
    (start : P { s with cur := edit s op } 0)
    (write : ∀ t n, P t n → P (writeBlock hdr bsz t).1 (n + (writeBlock hdr bsz t).2))
    (close : ∀ ex, op = .rotate ex → ∀ t n, P t n → P (closeOut t).1 (n + (closeOut t).2))
    (params : ∀ p, op = .addParams p → P { s with psets := s.psets ++ [p] } 0)
    (active : ∀ i, op = .setActive i → i < s.psets.length → P { s with active := i } 0) :
    P (step hdr bsz s op).1 (retBytes (step hdr bsz s op).2) := by
  have flush : ∀ t, P t 0 → P (flushIfFull hdr bsz t).1 (flushIfFull hdr bsz t).2 := fun t h => by
    unfold flushIfFull
    split
    · simpa using write t 0 h
    · exact h
  cases op with
  | qr id stored st => exact flush _ start
  | aec key st | mm id stored st =>
    simp only [step, edit] at start ⊢
    split
    · next hoff =>
      rw [Bool.not_eq_true'] at hoff
      rw [hoff] at start
      exact start
    · next hon =>
      rw [Bool.not_eq_true', Bool.not_eq_false] at hon
      rw [hon] at start
      exact flush _ start
  | writeBlock => simpa [step] using write s 0 start
  | rotate ex =>
    rw [step_rotate]
    cases ex
    · simpa using close _ rfl s 0 start
    · simpa using close _ rfl _ _ (write s 0 start)
  | addParams p => exact params p rfl
  | setActive i =>
    simp only [step]
    split
    · exact start
    · exact active i rfl (by omega)

theorem step_ind' {P : ExpSt → Prop} (s : ExpSt) (op : Op)
    (start : P { s with cur := edit s op })
    (write : ∀ t, P t → P (writeBlock hdr bsz t).1) (close : ∀ ex, op = .rotate ex → ∀ t, P t → P (closeOut t).1)
    (params : ∀ p, op = .addParams p → P { s with psets := s.psets ++ [p] })
    (active : ∀ i, op = .setActive i → i < s.psets.length → P { s with active := i }) : P (step hdr bsz s op).1 :=
  step_ind (P := fun t _ => P t) hdr bsz s op start (fun t _ => write t) (fun ex e t _ => close ex e t) params active

/-- `P` also sees the calls still to come, so that a hypothesis on the whole history (C13's `dutiful`) can be carried along -/
theorem run_ind {P : List Op → ExpSt → Prop} (h : ∀ s op rest, P (op :: rest) s → P rest (step hdr bsz s op).1) (ops : List Op) :
    ∀ s, P ops s → P [] (run hdr bsz s ops).1 := by
  induction ops with
  | nil => exact fun _ hs => hs
  | cons op ops ih => exact fun s hs => ih _ (h s op ops hs)

end CdnsVerif.Model.Exporter
