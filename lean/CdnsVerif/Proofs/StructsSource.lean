/-
  The translator's table of C++ members (`Generated.memberTable`, regenerated on every run) against member widths written down
  here by name (six in `widths_match`, the others in the list `blockWidths`): each is the size of its member,
  and only the two signed members are signed (`signed_members`); no struct of Model/Structs.lean lists a key twice
  (`schemas_keys_nodup`).  The schemas themselves are compared with what the source writes and reads in
  `Props.C09.preamble_schemas_match_source` and `Props.C01.block_schemas_match_source`.  Finite tables, checked by evaluation.  Property
  files over these schemas import this module without using a name from it: a check builds its `Props.Cxx` only, and the import makes
  that build check the sweeps too.
-/
import CdnsVerif.Model.Structs

namespace CdnsVerif.Model.Structs
open CdnsVerif.Model.Schema CdnsVerif.Generated

/-- generated obligation: the widths the schemas of `Model/Structs.lean` give are those of the C++ members -/
def widthOf (name : String) : Option Nat := (memberTable.find? (·.1 == name)).map (fun e => e.2.1 * 8)

theorem widths_match :
    widthOf "StorageHints.query_response_hints" = some 32 ∧ widthOf "StorageHints.query_response_signature_hints" = some 32 ∧
    widthOf "StorageHints.rr_hints" = some 8 ∧ widthOf "StorageHints.other_data_hints" = some 8 ∧
    widthOf "StorageParameters.ticks_per_second" = some 64 ∧ widthOf "StorageParameters.max_block_items" = some 64 := by
  decide +kernel

/-- the integer members of the block tree and the width the schema gives them -/
def blockWidths : List (String × Nat) := [
  ("BlockPreamble.block_parameters_index", 32),
  ("BlockStatistics.processed_messages", 32), ("BlockStatistics.qr_data_items", 32), ("BlockStatistics.unmatched_queries", 32),
  ("BlockStatistics.unmatched_responses", 32), ("BlockStatistics.discarded_opcode", 32), ("BlockStatistics.malformed_items", 32),
  ("ClassType.type", 16), ("ClassType.class_", 16),
  ("QueryResponseSignature.server_address_index", 32), ("QueryResponseSignature.server_port", 16),
  ("QueryResponseSignature.qr_transport_flags", 8), ("QueryResponseSignature.qr_type", 8), ("QueryResponseSignature.qr_sig_flags", 8),
  ("QueryResponseSignature.query_opcode", 8), ("QueryResponseSignature.qr_dns_flags", 16), ("QueryResponseSignature.query_rcode", 16),
  ("QueryResponseSignature.query_classtype_index", 32), ("QueryResponseSignature.query_qdcount", 16),
  ("QueryResponseSignature.query_ancount", 32), ("QueryResponseSignature.query_nscount", 16), ("QueryResponseSignature.query_arcount", 16),
  ("QueryResponseSignature.query_edns_version", 8), ("QueryResponseSignature.query_udp_size", 16),
  ("QueryResponseSignature.query_opt_rdata_index", 32), ("QueryResponseSignature.response_rcode", 16),
  ("Question.name_index", 32), ("Question.classtype_index", 32),
  ("RR.name_index", 32), ("RR.classtype_index", 32), ("RR.ttl", 32), ("RR.rdata_index", 32),
  ("MalformedMessageData.server_address_index", 32), ("MalformedMessageData.server_port", 16), ("MalformedMessageData.mm_transport_flags", 8),
  ("ResponseProcessingData.bailiwick_index", 32), ("ResponseProcessingData.processing_flags", 8),
  ("QueryResponseExtended.question_index", 32), ("QueryResponseExtended.answer_index", 32),
  ("QueryResponseExtended.authority_index", 32), ("QueryResponseExtended.additional_index", 32),
  ("Timestamp.m_secs", 64), ("Timestamp.m_ticks", 64),
  ("QueryResponse.client_address_index", 32), ("QueryResponse.client_port", 16), ("QueryResponse.transaction_id", 16),
  ("QueryResponse.qr_signature_index", 32), ("QueryResponse.client_hoplimit", 8), ("QueryResponse.response_delay", 64),
  ("QueryResponse.query_name_index", 32), ("QueryResponse.query_size", 64), ("QueryResponse.response_size", 64),
  ("QueryResponse.round_trip_time", 64),
  ("AddressEventCount.ae_type", 8), ("AddressEventCount.ae_code", 8), ("AddressEventCount.ae_address_index", 32),
  ("AddressEventCount.ae_transport_flags", 8), ("AddressEventCount.ae_count", 64),
  ("MalformedMessage.client_address_index", 32), ("MalformedMessage.client_port", 16), ("MalformedMessage.message_data_index", 32),
  ("StorageParameters.storage_flags", 8), ("StorageParameters.client_address_prefix_ipv4", 8), ("StorageParameters.client_address_prefix_ipv6", 8),
  ("StorageParameters.server_address_prefix_ipv4", 8), ("StorageParameters.server_address_prefix_ipv6", 8),
  ("CollectionParameters.query_timeout", 64), ("CollectionParameters.skew_timeout", 64), ("CollectionParameters.snaplen", 64)]

/-- generated obligation: every width of `blockWidths` is the size of the C++ member (translator output) -/
theorem block_widths_match : blockWidths.all (fun e => widthOf e.1 == some e.2) = true := by decide +kernel

/-- only `response_delay` and `round_trip_time` are signed (`read_integer`), as in the C++ -/
theorem signed_members : (memberTable.filter (fun e => e.2.2)).map (·.1) =
    ["QueryResponse.response_delay", "QueryResponse.round_trip_time",
     "GenericQueryResponse.response_delay", "GenericQueryResponse.round_trip_time"] := by decide +kernel

/-- the schemas are well-formed: no struct lists a key twice (checked for every struct of both trees) -/
def keysNodup : Kind → Bool
  | .struct fs => (fs.map (·.key)).Nodup
  | _ => true
theorem schemas_keys_nodup : [storageHints, storageParameters, collectionParameters, blockParameters, filePreamble, blockPreamble,
    blockStatistics, classType, queryResponseSignature, question, rr, malformedMessageData, blockTables, responseProcessingData,
    queryResponseExtended, queryResponse, addressEventCount, malformedMessage, block].all keysNodup = true := by decide +kernel

end CdnsVerif.Model.Structs
