/-
  C15 — a named output becomes visible under its final name only when complete.

  Model: `Model.Writer` – the system calls a named output issues (`open '<name>.part'`, the data
  in ANY split into write calls – libstdc++'s buffering is not assumed –, close, `rename`), for
  any sequence of outputs (rotations, rotation onto an existing name, destruction), applied to
  an arbitrary initial file system.  A crash = any prefix of the trace.

  `final_names_complete`: at every crash point, the file found under any final name is either
  what was there before the scenario started or the complete content of an output with that
  name; the '.part' names are the only other names touched (`one_output`).
  Hypothesis `Disjoint`: no final name is some output's '.part' name (names chosen by the
  application; '<x>.part' ≠ '<y>' for the names used).
  Partial: durability across power loss (fsync, directory ordering) and atomicity of rename(2)
  are the operating system's.
-/
import CdnsVerif.Model.Writer
import CdnsVerif.Proofs.Lists

namespace CdnsVerif.Props.C15
open CdnsVerif.Model.Writer CdnsVerif.Spec.Cbor

/-- what may legitimately be found under name `p`: the old file, or a complete output named `p` -/
def Allowed (fs0 : Fs) (outs : List OutSpec) (p : String) (v : Option Bytes) : Prop :=
  v = fs0 p ∨ ∃ o ∈ outs, o.name = p ∧ v = some o.content

def isPart (outs : List OutSpec) (p : String) : Prop := ∃ o ∈ outs, o.part = p

/-- a system call that does not name `p` leaves what is found under `p` alone -/
theorem apply_other (fs : Fs) (s : Sys) (p : String)
    (h : match s with
         | .openTrunc q => q ≠ p
         | .write q _ => q ≠ p
         | .close _ => True
         | .rename a b => a ≠ p ∧ b ≠ p) : fs.apply s p = fs p := by
  cases s with
  | openTrunc q | write q _ => exact if_neg h.symm
  | close _ => rfl
  | rename a b => exact (if_neg h.2.symm).trans (if_neg h.1.symm)

theorem writes_part (fs : Fs) (part : String) (pieces : List Bytes) (h0 : fs part = some []) :
    (Fs.applyAll fs (pieces.map (Sys.write part))) part = some pieces.flatten := by
  rw [Fs.applyAll, List.foldl_map]
  exact foldl_inv (fun a d => a.apply (Sys.write part d)) (fun done a => a part = some done.flatten) pieces fs h0
    fun done d a _ ha => by simp [Fs.apply, ha]

theorem applyAll_other (t : List Sys) (p : String) (h : ∀ s ∈ t, ∀ fs : Fs, fs.apply s p = fs p) :
    ∀ fs : Fs, (Fs.applyAll fs t) p = fs p := fun fs =>
  foldl_inv Fs.apply (fun _ a => a p = fs p) t fs rfl fun _ s a hs ha => (h s hs a).trans ha

theorem writes_other (fs : Fs) (part p : String) (pieces : List Bytes) (hne : part ≠ p) :
    (Fs.applyAll fs (pieces.map (Sys.write part))) p = fs p :=
  applyAll_other _ p (fun s hs fs => by obtain ⟨d, _, rfl⟩ := List.mem_map.1 hs; exact apply_other fs _ p hne) fs

theorem applyAll_append (fs : Fs) (t u : List Sys) : Fs.applyAll fs (t ++ u) = Fs.applyAll (Fs.applyAll fs t) u :=
  List.foldl_append

theorem one_output (fs : Fs) (o : OutSpec) (p : String) (hp : p ≠ o.part) (k : Nat) :
    (Fs.applyAll fs (o.trace.take k)) p = fs p ∨ (p = o.name ∧ (Fs.applyAll fs (o.trace.take k)) p = some o.content) := by
  -- the trace is: open, writes, close, rename; only the rename touches a name other than the part file
  have htr : o.trace = ([Sys.openTrunc o.part] ++ o.pieces.map (Sys.write o.part) ++ [Sys.close o.part]) ++ [Sys.rename o.part o.name] := by
    simp [OutSpec.trace]
  rw [htr]
  generalize hpre : [Sys.openTrunc o.part] ++ o.pieces.map (Sys.write o.part) ++ [Sys.close o.part] = pre
  have hquiet : ∀ s ∈ pre, ∀ fs : Fs, fs.apply s p = fs p := by
    intro s hs fs
    rw [← hpre] at hs
    simp only [List.mem_append, List.mem_singleton, List.mem_map] at hs
    rcases hs with ((rfl | ⟨d, _, rfl⟩) | rfl)
    · exact apply_other fs _ p hp.symm
    · exact apply_other fs _ p hp.symm
    · rfl
  by_cases hk : k ≤ pre.length
  · left
    rw [List.take_append_of_le_length hk]
    exact applyAll_other _ p (fun s hs => hquiet s (List.mem_of_mem_take hs)) fs
  · rw [List.take_of_length_le (by simp; omega), applyAll_append]
    have hcontent : (Fs.applyAll fs pre) o.part = some o.content := by
      rw [← hpre]
      simp only [Fs.applyAll, List.foldl_append, List.foldl_cons, List.foldl_nil]
      exact writes_part (fs.apply (Sys.openTrunc o.part)) o.part o.pieces (by simp [Fs.apply])
    -- the rename, seen at `p`, is `if p = o.name then old o.part else if p = o.part then none else old p`
    by_cases hn : p = o.name
    · exact .inr ⟨hn, (if_pos hn).trans hcontent⟩
    · exact .inl ((if_neg hn).trans ((if_neg hp).trans (applyAll_other pre p hquiet fs)))

/-- no final name is anybody's '.part' name -/
def Disjoint (outs : List OutSpec) : Prop := ∀ o ∈ outs, ∀ o' ∈ outs, o.name ≠ o'.part

/-- Every scenario (any number of outputs, names may repeat), every crash point: what is
    found under a final name is the file from before or a complete output of that name. -/
theorem final_names_complete (fs0 : Fs) (outs : List OutSpec) (hd : Disjoint outs) (k : Nat) :
    ∀ o ∈ outs, Allowed fs0 outs o.name ((Fs.applyAll fs0 ((scenarioTrace outs).take k)) o.name) := by
  have gen : ∀ (rest : List OutSpec) (fs : Fs) (k : Nat) (p : String),
      (∀ o ∈ rest, p ≠ o.part) → (∀ o ∈ rest, o ∈ outs) → Allowed fs0 outs p (fs p) →
      Allowed fs0 outs p ((Fs.applyAll fs ((scenarioTrace rest).take k)) p) := by
    intro rest
    induction rest with
    | nil => intro fs k p _ _ h; simpa [scenarioTrace, Fs.applyAll] using h
    | cons o os ih =>
      intro fs k p hpart hmem h
      rw [scenarioTrace, List.flatMap_cons, List.take_append, applyAll_append]
      have hA : Allowed fs0 outs p (Fs.applyAll fs (o.trace.take k) p) := by
        rcases one_output fs o p (hpart o (by simp)) k with h1 | ⟨hn, h1⟩
        · rw [h1]; exact h
        · exact .inr ⟨o, hmem o (by simp), hn.symm, h1⟩
      exact ih _ (k - o.trace.length) p (fun x hx => hpart x (by simp [hx])) (fun x hx => hmem x (by simp [hx])) hA
  intro o ho
  exact gen outs fs0 k o.name (fun o' ho' => hd o ho o' ho') (fun _ h => h) (Or.inl rfl)

/-! Non-vacuity: two outputs, the second rotated onto the first's name; crash before the second rename. -/
example : Disjoint [⟨"a", [[1], [2]]⟩, ⟨"a", [[3]]⟩] := by
  intro o ho o' ho'; simp at ho ho'; rcases ho with rfl | rfl <;> rcases ho' with rfl | rfl <;> decide

end CdnsVerif.Props.C15
