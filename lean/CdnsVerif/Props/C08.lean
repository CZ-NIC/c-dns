/-
  C08 — reading is invariant under equivalent re-encoding and ignores unknown members.

  Proved here (decoder level, for every well-formed item / every head width):
  * the value a read operation returns does not depend on the head width used
    (`uint_width_invariant`, `nint_width_invariant`), on definite vs chunked strings
    (`bytes_chunking_invariant`, `text_chunking_invariant`), nor on definite vs indefinite
    container starts (`C07.readArrayStart_accepts(_indef)`, `readMapStart_accepts(_indef)`);
  * an unknown member's value – any well-formed item: tagged, float, simple, deeply nested,
    indefinite – is skipped exactly (`unknown_value_skipped` = `C07.skip_exact_linear`), so the
    reader is positioned at the next member;
  * out-of-range unknown keys cannot be mistaken for known ones: `read_integer` saturates
    (`C07.readNegative_saturates`, `big_key_not_small`).

  Proved here (struct level, for the generic interpreter `Model.Schema` of the struct readers and
  every schema – the file-preamble tree is the instance `Model.Structs.filePreamble`):
  * `read_denotes`: on EVERY well-formed encoding `i` the byte-level reader returns the
    denotation `denote k i` – a function of the data only (members looked up by key, widths /
    definite-vs-indefinite / chunking invisible, unknown members ignored) – and stops exactly
    behind the item; `read_denotes_linear`: a fuel linear in the input suffices;
  * hence `equivalent_encodings_read_equal`: two well-formed encodings with the same
    denotation are read as the same value;
  * each rewrite of the property preserves the denotation, at any depth:
    head widths (`width_*`), definite ↔ indefinite (`indef_*`), chunked strings (`chunked_*`),
    unknown members with ANY value (`unknown_member_ignored`), permutation of map members with
    distinct keys (`member_order_irrelevant`), and congruence for nested members
    (`nested_array`, `nested_members`).
  The block tree is an instance of the schema table (`Model.Structs.block`), and what the application observes of a block – the
  block object built by `CdnsBlockRead::read` after the raw read, and the records `read_generic_qr/aec/mm` return through the
  bounds-checked accessors, or the class of the exception – is a function of the raw value (`Model.ReadBlock.blockOutcome`):
  * `records_invariant`: two well-formed encodings of a block with the same denotation give the same records (or the same
    exception class), under any parameter sets – index resolution and time arithmetic never see the encoding.
  Tie: exporter-produced files rewritten with random compositions of the rewrites (and re-laid out as other writers may) are read
  by the library and by the model reader (`blk`, `sch`, `rdq` drivers) and cross-checked with the independent Lean reader.
-/
import CdnsVerif.Proofs.StructsSource
import CdnsVerif.Proofs.Denote
import CdnsVerif.Proofs.Rewrite
import CdnsVerif.Model.Structs
import CdnsVerif.Model.ReadBlock

namespace CdnsVerif.Props.C08
open CdnsVerif.Spec.Cbor CdnsVerif.Model CdnsVerif.Model.Decoder

theorem uint_width_invariant (w₁ w₂ : Width) (n : Nat) (h₁ : w₁.fits n) (h₂ : w₂.fits n) (rest : Bytes) :
    (readUnsigned.run ((Item.uint w₁ n).enc ++ rest)).map (·.1) = (readUnsigned.run ((Item.uint w₂ n).enc ++ rest)).map (·.1) := by
  rw [C07.readUnsigned_accepts w₁ n h₁, C07.readUnsigned_accepts w₂ n h₂]

theorem nint_width_invariant (w₁ w₂ : Width) (n : Nat) (h₁ : w₁.fits n) (h₂ : w₂.fits n) (hn : n < 2 ^ 63) (rest : Bytes) :
    (readNegative.run ((Item.nint w₁ n).enc ++ rest)).map (·.1) = (readNegative.run ((Item.nint w₂ n).enc ++ rest)).map (·.1) := by
  rw [C07.readNegative_accepts w₁ n h₁ hn, C07.readNegative_accepts w₂ n h₂ hn]

theorem bytes_chunking_invariant (w : Width) (bs : Bytes) (h : w.fits bs.length) (cs : List Chunk) (hcs : chunksWF cs)
    (heq : chunksVal cs = bs) (fuel : Nat) (hf : cs.length + 1 ≤ fuel) (rest : Bytes) :
    (readBytestring fuel).run ((Item.bstr w bs).enc ++ rest) = (readBytestring fuel).run ((Item.bstrI cs).enc ++ rest) := by
  rw [C07.readBytestring_accepts w bs h, C07.readBytestring_accepts_chunked cs hcs fuel hf, heq]

theorem text_chunking_invariant (w : Width) (bs : Bytes) (h : w.fits bs.length) (cs : List Chunk) (hcs : chunksWF cs)
    (heq : chunksVal cs = bs) (fuel : Nat) (hf : cs.length + 1 ≤ fuel) (rest : Bytes) :
    (readTextstring fuel).run ((Item.tstr w bs).enc ++ rest) = (readTextstring fuel).run ((Item.tstrI cs).enc ++ rest) := by
  rw [C07.readTextstring_accepts w bs h, C07.readTextstring_accepts_chunked cs hcs fuel hf, heq]

/-- the value of an unknown member is skipped exactly, whatever well-formed item it is -/
theorem unknown_value_skipped (i : Item) (hwf : i.WF) (rest : Bytes) :
    (skipItem (3 * (i.enc ++ rest).length + 2)).run (i.enc ++ rest) = .ok ((), rest) :=
  C07.skip_exact_linear i hwf rest

/-- a key at or above 2^63 is read as INT64_MAX – never as a small (known) key -/
theorem big_key_not_small (w : Width) (n : Nat) (h : w.fits n) (hn : 2 ^ 63 ≤ n) (rest : Bytes) :
    readInteger.run ((Item.uint w n).enc ++ rest) = .ok ((2 ^ 63 - 1 : Int), rest) :=
  C07.readInteger_accepts (.uint w n) _ (by rw [Schema.intOf, if_pos (by unfold int64Max; omega)]; rfl) h rest

open CdnsVerif.Model.Schema

/-- The byte-level struct reader computes the denotation of every well-formed encoding. -/
theorem read_denotes (k : Kind) (i : Item) (v : Val) (hwf : i.WF) (hd : denote k i = some v)
    (fuel : Nat) (hf : steps i + cfuel i ≤ fuel) (rest : Bytes) :
    (readVal fuel k).run (i.enc ++ rest) = .ok (v, rest) :=
  (rd_all fuel).1 k i v rest hwf hd hf

/-- a fuel linear in the input always suffices -/
theorem read_denotes_linear (k : Kind) (i : Item) (v : Val) (hwf : i.WF) (hd : denote k i = some v) (rest : Bytes) :
    (readVal (4 * (i.enc ++ rest).length) k).run (i.enc ++ rest) = .ok (v, rest) := by
  apply read_denotes k i v hwf hd
  have := steps_le i
  have := cfuel_le i
  simp only [List.length_append]; omega

/-- Two well-formed encodings that denote the same data are read as the same value – whatever
    their head widths, container/string forms, member order and unknown members are. -/
theorem equivalent_encodings_read_equal (k : Kind) (i₁ i₂ : Item) (v : Val) (h₁ : i₁.WF) (h₂ : i₂.WF)
    (hv : denote k i₁ = some v) (heq : denote k i₁ = denote k i₂) (fuel : Nat)
    (hf₁ : steps i₁ + cfuel i₁ ≤ fuel) (hf₂ : steps i₂ + cfuel i₂ ≤ fuel) (r₁ r₂ : Bytes) :
    ((readVal fuel k).run (i₁.enc ++ r₁)).map (·.1) = ((readVal fuel k).run (i₂.enc ++ r₂)).map (·.1) := by
  rw [read_denotes k i₁ v h₁ hv fuel hf₁, read_denotes k i₂ v h₂ (heq ▸ hv) fuel hf₂]
  rfl

/-! ### each rewrite of the property preserves the denotation -/

theorem width_uint (k : Kind) (w w' : Width) (n : Nat) : denote k (.uint w n) = denote k (.uint w' n) := by
  cases k <;> rfl
theorem width_nint (k : Kind) (w w' : Width) (n : Nat) : denote k (.nint w n) = denote k (.nint w' n) := by
  cases k <;> rfl
theorem width_tstr (k : Kind) (w w' : Width) (b : Bytes) : denote k (.tstr w b) = denote k (.tstr w' b) := by
  cases k <;> rfl
theorem width_bstr (k : Kind) (w w' : Width) (b : Bytes) : denote k (.bstr w b) = denote k (.bstr w' b) := by
  cases k <;> rfl
theorem width_arr (k : Kind) (w w' : Width) (xs : List Item) : denote k (.arr w xs) = denote k (.arr w' xs) := by
  cases k <;> rfl
theorem width_map (k : Kind) (w w' : Width) (xs : List Item) : denote k (.map w xs) = denote k (.map w' xs) := by
  cases k <;> rfl
theorem indef_arr (k : Kind) (w : Width) (xs : List Item) : denote k (.arr w xs) = denote k (.arrI xs) := by
  cases k <;> rfl
theorem indef_map (k : Kind) (w : Width) (xs : List Item) : denote k (.map w xs) = denote k (.mapI xs) := by
  cases k <;> rfl
theorem chunked_tstr (k : Kind) (w : Width) (cs : List Chunk) : denote k (.tstr w (chunksVal cs)) = denote k (.tstrI cs) := by
  cases k <;> rfl
theorem chunked_bstr (k : Kind) (w : Width) (cs : List Chunk) : denote k (.bstr w (chunksVal cs)) = denote k (.bstrI cs) := by
  cases k <;> rfl

/-- a member whose key the schema does not know is ignored, whatever value it carries and
    wherever in the map it stands -/
theorem unknown_member_ignored (fs : List Field) (w w' : Width) (pre post : List (Item × Item)) (kI vI : Item) (key : Int)
    (hk : intOf kI = some key) (hun : fs.find? (fun f => f.key == key) = none) :
    denote (.struct fs) (.map w (flat (pre ++ (kI, vI) :: post))) = denote (.struct fs) (.map w' (flat (pre ++ post))) := by
  rw [denote_map, denote_map, denotePairs_unknown fs pre post kI vI key hk hun]

/-- the order of the members of a map (with pairwise different keys) is irrelevant -/
theorem member_order_irrelevant (fs : List Field) (w w' : Width) (ps ps' : List (Item × Item)) (hp : ps.Perm ps')
    (hnd : (ps.map keyOfPair).Nodup) :
    denote (.struct fs) (.map w (flat ps)) = denote (.struct fs) (.map w' (flat ps')) := by
  rw [denote_map, denote_map, denotePairs_perm fs ps ps' hp hnd []]

/-- rewriting inside the elements of an array -/
theorem nested_array (ek : Kind) (w w' : Width) (xs xs' : List Item)
    (h : AllRel (fun i i' => denote ek i = denote ek i') xs xs') :
    denote (.arr ek) (.arr w xs) = denote (.arr ek) (.arr w' xs') := by
  simp only [denote, denoteList_congr ek xs xs' h]

/-- rewriting inside member values (each at its member's kind) and re-encoding keys -/
theorem nested_members (fs : List Field) (w w' : Width) (ps ps' : List (Item × Item))
    (h : AllRel (fun p p' => intOf p.1 = intOf p'.1 ∧
        ∀ key f, intOf p.1 = some key → fs.find? (fun f => f.key == key) = some f → denote f.kind p.2 = denote f.kind p'.2) ps ps') :
    denote (.struct fs) (.map w (flat ps)) = denote (.struct fs) (.map w' (flat ps')) := by
  rw [denote_map, denote_map, denotePairs_congr (fun _ _ hpp => effect_congr hpp.1 hpp.2) h]

/-! Non-vacuity: a storage-hints map written canonically (`hintsA`), and the same data written with
    an indefinite map, the first two members swapped, 8-byte heads and an unknown member (key -7)
    carrying a tagged indefinite array with a float and an empty chunked string (`hintsB`): both are
    well-formed, they have the same denotation – obtained here by chaining the rewrite theorems, not
    by evaluation – and the reader returns the same struct for both. -/
def psA : List (Item × Item) := [(.uint .imm 0, .uint .w4 0xffffffff), (.uint .imm 1, .uint .w1 200),
  (.uint .imm 2, .uint .imm 3), (.uint .imm 3, .uint .imm 1)]
/-- heads widened -/
def psW : List (Item × Item) := [(.uint .w1 0, .uint .w8 0xffffffff), (.uint .imm 1, .uint .w8 200),
  (.uint .imm 2, .uint .w4 3), (.uint .w8 3, .uint .w2 1)]
def unknownK : Item := .nint .imm 6
def unknownV : Item := .tag .w2 55799 (.arrI [.f16 0x3c00, .tstrI []])
def psS : List (Item × Item) := [(.uint .imm 1, .uint .w8 200), (.uint .w1 0, .uint .w8 0xffffffff),
  (.uint .imm 2, .uint .w4 3), (.uint .w8 3, .uint .w2 1)]
def hintsA : Item := .map .imm (flat psA)
def hintsB : Item := .mapI (flat ([(Item.uint .imm 1, Item.uint .w8 200)] ++ (unknownK, unknownV) ::
  [(.uint .w1 0, .uint .w8 0xffffffff), (.uint .imm 2, .uint .w4 3), (.uint .w8 3, .uint .w2 1)]))

theorem hints_wf : hintsA.WF ∧ hintsB.WF := by
  refine ⟨?_, ?_⟩ <;>
    simp [hintsA, hintsB, psA, unknownK, unknownV, flat, Item.WF, Item.WFList, Width.fits, Width.bound, chunksWF]

open CdnsVerif.Model.Structs in
theorem hints_same : denote storageHints hintsA = denote storageHints hintsB := by
  show denote (.struct _) hintsA = denote (.struct _) hintsB
  -- 1. widen the heads of keys and values (congruence + width lemmas)
  refine (nested_members _ .imm .w1 psA psW
    (.cons ⟨rfl, fun _ f _ _ => width_uint f.kind _ _ _⟩ (.cons ⟨rfl, fun _ f _ _ => width_uint f.kind _ _ _⟩
      (.cons ⟨rfl, fun _ f _ _ => width_uint f.kind _ _ _⟩ (.cons ⟨rfl, fun _ f _ _ => width_uint f.kind _ _ _⟩ .nil))))).trans ?_
  -- 2. swap the first two members
  refine (member_order_irrelevant _ .w1 .w1 psW psS (List.Perm.swap _ _ _) (by decide)).trans ?_
  -- 3. insert the unknown member behind the first one
  refine (unknown_member_ignored _ .w1 .w1 [(Item.uint .imm 1, Item.uint .w8 200)]
    [(.uint .w1 0, .uint .w8 0xffffffff), (.uint .imm 2, .uint .w4 3), (.uint .w8 3, .uint .w2 1)]
    unknownK unknownV (-7) rfl rfl).symm.trans ?_
  -- 4. make the map indefinite
  exact indef_map _ .w1 _

open CdnsVerif.Model.Structs in
example : denote storageHints hintsA = some (.record [(0, .num 0xffffffff), (1, .num 200), (2, .num 3), (3, .num 1)]) := by rfl

open CdnsVerif.Model.Structs in
example (fuel : Nat) (h : 40 ≤ fuel) (r₁ r₂ : Bytes) :
    ((readVal fuel storageHints).run (hintsA.enc ++ r₁)).map (·.1) = ((readVal fuel storageHints).run (hintsB.enc ++ r₂)).map (·.1) :=
  equivalent_encodings_read_equal storageHints hintsA hintsB _ hints_wf.1 hints_wf.2 (by rfl) hints_same fuel
    (Nat.le_trans (by decide) h) (Nat.le_trans (by decide) h) r₁ r₂

open CdnsVerif.Model.Structs CdnsVerif.Model.ReadBlock in
/-- **Records are invariant under re-encoding.**  What the application observes of a block (block object, query/responses,
    address-event counts, malformed messages – or the class of the exception thrown) is the same for any two well-formed
    encodings with the same denotation: widths, definite/indefinite, chunking, member order and unknown members are invisible
    to index resolution and time arithmetic as well. -/
theorem records_invariant (rates : List Nat) (i₁ i₂ : Item) (v : Val) (h₁ : i₁.WF) (h₂ : i₂.WF)
    (hv : denote block i₁ = some v) (heq : denote block i₁ = denote block i₂) (fuel : Nat)
    (hf₁ : steps i₁ + cfuel i₁ ≤ fuel) (hf₂ : steps i₂ + cfuel i₂ ≤ fuel) (r₁ r₂ : Bytes) :
    ((readVal fuel block).run (i₁.enc ++ r₁)).map (fun x => blockOutcome rates x.1) =
    ((readVal fuel block).run (i₂.enc ++ r₂)).map (fun x => blockOutcome rates x.1) := by
  rw [read_denotes block i₁ v h₁ hv fuel hf₁, read_denotes block i₂ v h₂ (heq ▸ hv) fuel hf₂]
  rfl

end CdnsVerif.Props.C08
