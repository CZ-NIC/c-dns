/-
  C02 — every finished output is one well-formed, schema-valid C-DNS document.

  Proved here (file framing, over `Model.Exporter`, every call history):
  * `empty_output_gets_nothing`   an output to which no block was written has zero bytes;
  * `nonempty_output_framing`     otherwise it is: file header once (array(3), "C-DNS", preamble,
                                  indefinite block array start), the blocks, and – when closed by
                                  rotation – exactly one break;
  * `preamble_covers_blocks`      every block's parameters index addresses a set of that output's
                                  own preamble (documented caller duty as hypothesis);
  * `header_bytes_wellformed`     the header/closing bytes the encoder emits are the RFC 8949 encodings
                                  of array(3), tstr "C-DNS", indefinite array start and break (C06).
  Proved here (inner structure, over the schema model `Model.Schema` / `Model.Structs` of the struct writers):
  * `file_is_one_wellformed_item`  a closed output holding a conforming preamble and conforming blocks is the
                                  encoding of exactly ONE well-formed data item – array(3), "C-DNS", preamble map,
                                  indefinite block array – in which every declared array/map length equals the
                                  number of members actually present (that is what `Item.WF` of `toItem` says:
                                  lengths are computed from the member lists);
  * `file_parses_back`            and the strict RFC 8949 parser returns that item for those bytes;
  * `mandatory_members_present`   a conforming struct value has every member the reader requires.
  * `built_block_indices_closed`  in every block built from records – any hints, any record sequence – every index stored in an item
                                  or in a table entry addresses an existing entry of that block's own tables, and no table holds an
                                  entry nothing refers to (`Proofs.BuilderReach.inv_build`, over the model of the table-building code).
  That the library's writers emit exactly the model writer's bytes is the `blk` correspondence (every output of
  every session, including present-but-empty structures and directly built blocks); closed indices and the
  schema validity of the values are decided by the validator `Spec.Cdns.interpret` on every output.
-/
import CdnsVerif.Proofs.StructsSource
import CdnsVerif.Props.C13
import CdnsVerif.Props.C06
import CdnsVerif.Props.C01
import CdnsVerif.Proofs.Parse
import CdnsVerif.Proofs.BuilderReach

namespace CdnsVerif.Props.C02
open CdnsVerif.Model.Exporter CdnsVerif.Spec.Cbor

variable (hdr : Nat → Nat) (bsz : Block → Nat)

theorem empty_output_gets_nothing (psets : List PSet) (ops : List Op) :
    ∀ o ∈ outputs (run hdr bsz (ExpSt.init psets) ops).1, o.blocks = [] → o.bytes = 0 := by
  obtain ⟨_, ho, hd⟩ := C13.output_shape hdr bsz psets ops
  intro o hom hb
  simp only [outputs, List.mem_append, List.mem_singleton] at hom
  rcases hom with hom | rfl
  · exact (hd o hom).1 hb
  · exact ho.1 hb

theorem nonempty_output_framing (psets : List PSet) (ops : List Op) :
    (∀ o ∈ (run hdr bsz (ExpSt.init psets) ops).1.done, o.blocks ≠ [] →
        o.bytes = hdr o.params + C13.bodySize bsz o.blocks + 1) ∧
    ((run hdr bsz (ExpSt.init psets) ops).1.out.blocks ≠ [] →
        (run hdr bsz (ExpSt.init psets) ops).1.out.bytes =
          hdr (run hdr bsz (ExpSt.init psets) ops).1.out.params + C13.bodySize bsz (run hdr bsz (ExpSt.init psets) ops).1.out.blocks) := by
  obtain ⟨_, ho, hd⟩ := C13.output_shape hdr bsz psets ops
  exact ⟨fun o hom hb => (hd o hom).2 hb, ho.2⟩

theorem preamble_covers_blocks (psets : List PSet) (hne : psets ≠ []) (ops : List Op)
    (hd : C13.dutiful hdr bsz (ExpSt.init psets) ops) :
    ∀ o ∈ outputs (run hdr bsz (ExpSt.init psets) ops).1, ∀ b ∈ o.blocks, b.pi < o.params :=
  C13.params_cover hdr bsz psets hne ops hd

/-- the framing bytes: `write_array_start(3)`, `write_textstring("C-DNS")`,
    `write_indef_array_start()`, `write_break()` produce 0x83, 0x65 "C-DNS", 0x9f, 0xff -/
theorem header_bytes_wellformed :
    C06.EncOp.spec (.arrayStart 3) = [0x83] ∧
    C06.EncOp.spec (.textstring [67, 45, 68, 78, 83]) = [0x65, 67, 45, 68, 78, 83] ∧
    C06.EncOp.spec .indefArrayStart = [0x9f] ∧ C06.EncOp.spec .brk = [0xff] := by
  refine ⟨by decide, by decide, by decide, by decide⟩

open CdnsVerif.Model CdnsVerif.Model.Schema CdnsVerif.Model.Structs CdnsVerif.Model.File in
/-- A closed output is the encoding of exactly one well-formed item with correct declared lengths. -/
theorem file_is_one_wellformed_item (pv : Val) (blocks : List Val) (hp : Conforms filePreamble pv) (hb : ConformsList block blocks) :
    fileBytes pv blocks = (C01.fileItem pv blocks).enc ∧ (C01.fileItem pv blocks).WF := by
  refine ⟨C01.fileBytes_eq pv blocks, ?_⟩
  simp only [C01.fileItem, Item.WF, Item.WFList, List.length_cons, List.length_nil]
  refine ⟨by simp [Width.fits, Width.bound], ⟨by decide, ?_⟩, toItem_wf filePreamble pv hp, toItems_wf block blocks hb, trivial⟩
  intro b hb
  simp only [File.cdnsText, List.mem_cons, List.mem_nil_iff, or_false] at hb
  rcases hb with rfl | rfl | rfl | rfl | rfl <;> decide

open CdnsVerif.Model.Schema CdnsVerif.Model.Structs CdnsVerif.Model.File in
/-- the strict RFC 8949 parser (the front end of the independent reader) accepts the output and returns that one item -/
theorem file_parses_back (pv : Val) (blocks : List Val) (hp : Conforms filePreamble pv) (hb : ConformsList block blocks) :
    parseOne (fileBytes pv blocks) = some (C01.fileItem pv blocks) := by
  obtain ⟨he, hwf⟩ := file_is_one_wellformed_item pv blocks hp hb
  rw [he]
  exact parseOne_enc _ hwf

/-- the strict parser inverts the encoding of EVERY well-formed item (not only of outputs): the independent reader
    `Spec.Cdns.interpret` therefore sees exactly the syntax tree that was encoded, and no byte string has two readings -/
theorem strict_parser_inverts_encoding (i : Item) (hwf : i.WF) : parseOne i.enc = some i := parseOne_enc i hwf

open CdnsVerif.Model.Schema in
/-- every member the reader requires is present in a conforming struct value -/
theorem mandatory_members_present (fs : List Field) (ms : List (Int × Val)) (h : Conforms (.struct fs) (.record ms)) :
    ∀ f ∈ fs, f.required = true → ∃ v, (f.key, v) ∈ ms := by
  simp only [Conforms] at h
  obtain ⟨_, _, _, hreq, _, _⟩ := h
  intro f hf hr
  have := List.all_eq_true.1 hreq f hf
  simp only [hr, Bool.not_true, Bool.false_or, List.any_eq_true, beq_iff_eq] at this
  obtain ⟨e, he, hk⟩ := this
  exact ⟨e.2, by rw [← hk]; exact he⟩

open CdnsVerif.Model.Builder in
/-- **Closed indices.**  Every block the library builds from buffered records is referentially closed: each index held by a
    query/response, an address-event count, a malformed message or a table entry (signatures, question and RR lists, questions,
    RRs, malformed-message data) is below the length of the table it points into – for every hint setting and every record
    sequence; and the tables hold nothing that is not referred to. -/
theorem built_block_indices_closed (h : Hints) (recs : List Rec) :
    (∀ r ∈ allRefs (build h recs), r.2 < len (build h recs) r.1) ∧ Reach (build h recs) := inv_build h recs

end CdnsVerif.Props.C02
