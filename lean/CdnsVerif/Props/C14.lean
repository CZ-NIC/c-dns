/-
  C14 — compression is transparent: decompressing any output gives the plain output.

  Model: `Model.Writer.Codec` (abstract streaming compressor) and the loops of
  `GzipCborOutputWriter` / `XzCborOutputWriter` (`write`: until all input is consumed;
  `finish`: until the stream ends).  For EVERY codec satisfying the contract `Codec.Sound`
  (zlib and liblzma are trusted to), every sequence of chunks in any chunking and every
  scratch-buffer size:

  * `write_consumes_all`   the calls `write` makes consume exactly the chunk, in order;
  * `compressed_equals_plain`  the bytes handed to the inner writer over `write*; finish`
                           decode to the concatenation of the chunks – what the plain writer
                           would have written;
  * `lifecycle_transparent` the loops composed over the whole life of an output – `write` for every chunk, then `finish` –
                           hand the inner writer bytes that decode to the concatenation of all chunks;
  * `scratch_bounded`      the on-stack scratch buffer never exceeds 64 KiB, whatever the
                           chunk size (the pinned tree: unbounded, stack overflow at ~8 MB);
  * `storeCodec_sound`     the contract is inhabited.
  Partial: termination of the loops is the compressor's progress guarantee (fuel in the
  model; the theorem is about runs that terminate), and zlib/liblzma satisfying the contract
  is validated only by decompression with independent implementations (Python zlib/lzma).
-/
import CdnsVerif.Model.Writer

namespace CdnsVerif.Props.C14
open CdnsVerif.Model.Writer CdnsVerif.Spec.Cbor

theorem scratch_bounded (inSize : Nat) : scratchSize inSize ≤ 65536 ∧ 0 < scratchSize inSize := by
  unfold scratchSize
  constructor
  · exact Nat.min_le_right _ _
  · apply Nat.lt_min.2; constructor <;> omega

theorem runCalls_append (c : Codec) (s : c.St) (ks1 ks2 : List Call) :
    c.runCalls s (ks1 ++ ks2) =
      let r1 := c.runCalls s ks1
      if r1.2.2.2 then r1
      else
        let r2 := c.runCalls r1.1 ks2
        (r2.1, r1.2.1 ++ r2.2.1, r1.2.2.1 ++ r2.2.2.1, r2.2.2.2) := by
  induction ks1 generalizing s with
  | nil => simp [Codec.runCalls]
  | cons k ks ih =>
    simp only [List.cons_append, Codec.runCalls]
    by_cases he : (c.step s k.avail k.finish k.space).2.2.2 = true
    · simp [he]
    · simp only [he, Bool.false_eq_true, if_false, ih]
      split <;> simp [List.append_assoc]

/-- the calls of one `write`, run from the codec state it started in, consume exactly the chunk and do not end the stream
    (what `step` reports as consumed is cut to what was offered by `runCalls` itself, so no bound on it is needed) -/
theorem cwWriteCalls_run (c : Codec) (size fuel : Nat) (s : c.St) (rest : Bytes)
    (hnoend : ∀ st inp sp, (c.step st inp false sp).2.2.2 = false)
    (s' : c.St) (ks : List Call) (o : Bytes) (h : cwWriteCalls c size fuel s rest = some (s', ks, o)) :
    c.runCalls s ks = (s', o, rest, false) := by
  induction fuel generalizing s rest ks o with
  | zero => cases h
  | succ fuel ih =>
    unfold cwWriteCalls at h
    split at h
    · next hr => cases h; rw [hr]; rfl
    · split at h
      next s1 n o1 e hst =>
      split at h
      · next s2 ks2 o2 hrec =>
        cases h
        -- the call does not end the stream, so `runCalls` goes on with the calls of the remaining loop
        have he : e = false := by simpa [hst] using hnoend s rest (scratchSize size)
        simp [Codec.runCalls, hst, he, ih _ _ _ _ hrec, List.take_append_drop]
      · cases h

theorem write_consumes_all (c : Codec) (size fuel : Nat) (s : c.St) (rest : Bytes)
    (hle : ∀ st inp fin sp, (c.step st inp fin sp).2.1 ≤ inp.length)
    (hnoend : ∀ st inp sp, (c.step st inp false sp).2.2.2 = false)
    (s' : c.St) (ks : List Call) (o : Bytes) (h : cwWriteCalls c size fuel s rest = some (s', ks, o)) :
    c.runCalls s ks = (s', o, rest, false) :=
  cwWriteCalls_run c size fuel s rest hnoend s' ks o h

theorem finish_ends (c : Codec) (fuel : Nat) (s s' : c.St) (ks : List Call) (o : Bytes)
    (h : cwFinishCalls c fuel s = some (s', ks, o)) : c.runCalls s ks = (s', o, [], true) := by
  induction fuel generalizing s ks o with
  | zero => cases h
  | succ fuel ih =>
    unfold cwFinishCalls at h
    split at h
    next s1 n o1 e hst =>
    split at h
    · next he => cases h; simp [Codec.runCalls, hst, he]
    · next he =>
      split at h
      · next s2 ks2 o2 hrec => cases h; simp [Codec.runCalls, hst, he, ih _ _ _ hrec]
      · cases h

/-- the whole life of one compressed output: the calls of every `write` followed by the calls
    of `finish`; `out`/`inp` = what reached the inner writer / what was consumed -/
def Lifecycle (c : Codec) (calls : List Call) (out inp : Bytes) : Prop :=
  (c.runCalls c.init calls) = ((c.runCalls c.init calls).1, out, inp, true)

/-- Transparency: for a sound codec, if the calls made over the life of an output end the
    stream, what the inner writer received decodes to exactly the bytes consumed – and
    `write_consumes_all` shows those are the chunks written, in order. -/
theorem compressed_equals_plain (c : Codec) (hs : c.Sound) (calls : List Call) (out inp : Bytes)
    (h : Lifecycle c calls out inp) : c.decode out = some inp := by
  have := hs calls (by rw [h])
  rwa [h] at this

/-- from any codec state: the calls of the writes and of the closing `finish` consume the chunks in order and end the stream -/
theorem cwLifecycle_run (c : Codec) (hnoend : ∀ st inp sp, (c.step st inp false sp).2.2.2 = false) (fuel : Nat) (s : c.St)
    (chunks : List Bytes) (calls : List Call) (out : Bytes) (h : cwLifecycle c fuel s chunks = some (calls, out)) :
    ∃ s', c.runCalls s calls = (s', out, chunks.flatten, true) := by
  induction chunks generalizing s calls out with
  | nil =>
    simp only [cwLifecycle, Option.map_eq_some_iff] at h
    obtain ⟨⟨s', ks, o⟩, hf, heq⟩ := h
    cases heq
    exact ⟨s', finish_ends c fuel s s' _ _ hf⟩
  | cons chunk rest ih =>
    simp only [cwLifecycle] at h
    split at h
    · cases h
    · next s1 ks o hw =>
      split at h
      · cases h
      · next ks2 o2 hl =>
        cases h
        obtain ⟨s', hr⟩ := ih s1 ks2 o2 hl
        refine ⟨s', ?_⟩
        rw [runCalls_append, cwWriteCalls_run c chunk.length fuel s chunk hnoend s1 ks o hw]
        simp [hr]

/-- **Transparency over the whole life of an output.**  For a sound codec that never consumes more than it is offered and never
    ends the stream unasked, whatever chunks the encoder hands to `write` (any number, any sizes – the scratch buffer follows
    the chunk size up to 64 KiB) and however many steps the codec needs: if the run terminates, the bytes that reached the inner
    writer decode to exactly the concatenation of the chunks. -/
theorem lifecycle_transparent (c : Codec) (hs : c.Sound)
    (hle : ∀ st inp fin sp, (c.step st inp fin sp).2.1 ≤ inp.length)
    (hnoend : ∀ st inp sp, (c.step st inp false sp).2.2.2 = false)
    (fuel : Nat) (chunks : List Bytes) (calls : List Call) (out : Bytes)
    (h : cwLifecycle c fuel c.init chunks = some (calls, out)) : c.decode out = some chunks.flatten := by
  obtain ⟨s', hr⟩ := cwLifecycle_run c hnoend fuel c.init chunks calls out h
  exact compressed_equals_plain c hs calls out _ (by rw [Lifecycle, hr])

/-! ### the contract is satisfiable: a "store" codec (copies input to output, one byte of
    trailer at the end) -/

def storeCodec : Codec where
  St := Bool                                    -- trailer already emitted?
  init := false
  step := fun st inp fin space =>
    if st then (true, 0, [], true)
    else if inp = [] ∧ fin ∧ space > 0 then (true, 0, [0], true)
    else
      let n := Nat.min inp.length space
      (false, n, inp.take n, false)
  decode := fun out => match out.reverse with
    | 0 :: r => some r.reverse
    | _ => none

theorem store_run (calls : List Call) (h : (storeCodec.runCalls false calls).2.2.2 = true) :
    (storeCodec.runCalls false calls).2.1 = (storeCodec.runCalls false calls).2.2.1 ++ [0] := by
  induction calls with
  | nil => simp [Codec.runCalls] at h
  | cons k ks ih =>
    simp only [Codec.runCalls, storeCodec] at h ⊢
    by_cases hfin : k.avail = [] ∧ k.finish = true ∧ k.space > 0
    · simp [hfin]
    · simp only [Bool.false_eq_true, if_false, hfin] at h ⊢
      have := ih h
      simp only [storeCodec] at this
      rw [this]
      simp

theorem storeCodec_sound : storeCodec.Sound := by
  intro calls hend
  have := store_run calls hend
  show storeCodec.decode (storeCodec.runCalls false calls).2.1 = some (storeCodec.runCalls false calls).2.2.1
  rw [this]
  simp [storeCodec]

/-- non-vacuity: the store codec run through the whole life of an output with three chunks -/
example : (cwLifecycle storeCodec 10 storeCodec.init [[1, 2, 3], [], [4]]).map (·.2) = some [1, 2, 3, 4, 0] := by decide

end CdnsVerif.Props.C14
