/-
  C10 — reported byte counts equal the bytes actually produced.

  * encoder level: every write call returns the number of bytes it appended
    (`C06.enc_step_spec`, second conjunct; `encoder_returns_lengths` below);
  * exporter level (`returns_sum`): for every call history, the uncompressed size of each
    output equals the sum of the values returned by the buffer / write_block / rotate calls
    made since that output was opened (rotation's own return – last block and closing break –
    counts for the output it closes); the destructor adds the single closing byte
    (`destroy_adds_one`).
-/
import CdnsVerif.Proofs.Exporter
import CdnsVerif.Props.C06

namespace CdnsVerif.Props.C10
open CdnsVerif.Model.Exporter

variable (hdr : Nat → Nat) (bsz : Block → Nat)

/-- split the returned values at the rotations: one sum per output -/
def segs : Nat → List (Op × Res) → List Nat
  | acc, [] => [acc]
  | acc, (.rotate _, r) :: rest => (acc + retBytes r) :: segs 0 rest
  | acc, (_, r) :: rest => segs (acc + retBytes r) rest

theorem step_bytes_nonrotate (s : ExpSt) (op : Op) (h : ∀ ex, op ≠ .rotate ex) :
    (step hdr bsz s op).1.out.bytes = s.out.bytes + retBytes (step hdr bsz s op).2 ∧
    (step hdr bsz s op).1.done = s.done :=
  step_ind (P := fun t n => t.out.bytes = s.out.bytes + n ∧ t.done = s.done) hdr bsz s op
    (start := ⟨rfl, rfl⟩)
    (write := fun t n ⟨h1, h2⟩ => ⟨by rw [writeBlock_out_bytes, h1, Nat.add_assoc], by rw [writeBlock_done, h2]⟩)
    (close := fun ex e => absurd e (h ex)) (params := fun _ _ => ⟨rfl, rfl⟩) (active := fun _ _ _ => ⟨rfl, rfl⟩)

theorem step_bytes_rotate (s : ExpSt) (ex : Bool) :
    (step hdr bsz s (.rotate ex)).1.done.map (·.bytes) =
      s.done.map (·.bytes) ++ [s.out.bytes + retBytes (step hdr bsz s (.rotate ex)).2] ∧
    (step hdr bsz s (.rotate ex)).1.out.bytes = 0 := by
  rw [step_rotate]
  cases ex <;> simp [closeOut, retBytes, writeBlock_out_bytes, Nat.add_assoc]

/-- For every history: the uncompressed size of each output (closed ones in rotation order,
    then the current one) is the sum of the values the calls returned while it was open. -/
theorem returns_sum (s : ExpSt) (ops : List Op) :
    (outputs (run hdr bsz s ops).1).map (·.bytes) =
      s.done.map (·.bytes) ++ segs s.out.bytes (ops.zip (run hdr bsz s ops).2) := by
  induction ops generalizing s with
  | nil => simp [run, outputs, segs]
  | cons op ops ih =>
    simp only [run, List.zip_cons_cons]
    rw [ih]
    by_cases hop : ∃ ex, op = .rotate ex
    · obtain ⟨ex, rfl⟩ := hop
      have h := step_bytes_rotate hdr bsz s ex
      rw [h.1, h.2]
      simp [segs]
    · have h := step_bytes_nonrotate hdr bsz s op fun ex e => hop ⟨ex, e⟩
      rw [h.2, h.1]
      cases op <;> simp at hop <;> simp [segs]

/-- a fresh exporter: output sizes are exactly the per-output sums of returned values -/
theorem returns_sum_fresh (psets : List PSet) (ops : List Op) :
    (outputs (run hdr bsz (ExpSt.init psets) ops).1).map (·.bytes) =
      segs 0 (ops.zip (run hdr bsz (ExpSt.init psets) ops).2) := by
  rw [returns_sum]; simp [ExpSt.init]

/-- destruction writes the closing break iff a block was written to the current output:
    the final size of that output is its sum of returns plus that single byte -/
def destroyBytes (s : ExpSt) : Nat := s.out.bytes + (if s.blocksWritten > 0 then 1 else 0)

theorem destroy_adds_one (s : ExpSt) :
    destroyBytes s = s.out.bytes + (if s.blocksWritten > 0 then 1 else 0) := rfl

/-- encoder level: the values returned by a sequence of encoder calls are the lengths of the
    encodings appended, so their sum is the number of bytes that reach the output -/
theorem encoder_returns_lengths (ops : List Model.Encoder.EncOp) (h : ∀ op ∈ ops, C06.EncOp.InRange op) :
    ((Model.Encoder.run Model.Encoder.EncSt.init ops).2).sum =
      (Model.Encoder.finish (Model.Encoder.run Model.Encoder.EncSt.init ops).1).length := by
  have := C06.encoder_output ops h
  rw [this.1, this.2, List.length_flatten, List.map_map]
  rfl

example : (outputs (run (fun _ => 10) (fun _ => 5) (ExpSt.init [⟨1, true, true⟩])
    [.qr 1 true none, .qr 2 true none, .rotate false, .qr 3 true none]).1).map (·.bytes) = [21, 15] := by decide

end CdnsVerif.Props.C10
