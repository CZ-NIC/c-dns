/-
  C09 — file preamble and block parameters survive write → read unchanged.

  * `struct_roundtrip`: for EVERY schema (any nesting of structs, arrays and scalar members) and every
    value conforming to it, what the generic struct writer emits is read back by the generic struct
    reader as exactly that value – absent optional members stay absent, present-but-empty structures
    and lists stay present, list order and parameter-set indices are kept (induction on the reader's fuel
    over `Model.Schema`, which models all struct `write`/`read` functions of the library);
  * `preamble_roundtrip`: the instance for the FilePreamble → BlockParameters → StorageParameters →
    StorageHints / CollectionParameters tree (`Model.Structs`, keys from the translator);
  * `struct_output_wellformed`: what the writer emits is a well-formed RFC 8949 item whose map/array
    counts equal the members/elements present (the struct-level half of C02);
  * `preamble_keys_match_rfc`: the preamble's keys are those of RFC 8618.
  The model is tied to the code by the C09 correspondence: on random preambles the model reader
  (through the window model) returns what the library's reader returns, and the model writer
  reproduces the library's bytes exactly.
-/
import CdnsVerif.Proofs.StructsSource
import CdnsVerif.Proofs.Keys
import CdnsVerif.Props.C06
import CdnsVerif.Props.C07
import CdnsVerif.Proofs.ConformsB
import CdnsVerif.Proofs.Denote
import CdnsVerif.Model.Structs

namespace CdnsVerif.Props.C09
open CdnsVerif.Spec.Cbor CdnsVerif.Model.Decoder

theorem preamble_keys_match_rfc : Proofs.Keys.keysAgree = true := Proofs.Keys.generated_keys_eq_rfc

open CdnsVerif.Model.Structs in
/-- **The preamble schemas are what the source does** (translator T3, regenerated on every run by running the working tree's own
    `write`/`read` functions): for each struct of the preamble tree the hand-written schema lists exactly the keys the writer
    emits, in its order, each with the kind and width of the item written, and marks as required exactly the members without
    which the reader throws; the reader keeps of an over-wide foreign value exactly that width; and the library's own
    read-then-write of an all-members value reproduces the bytes. -/
theorem preamble_schemas_match_source :
    sourceRows "StorageHints" = some (rowsOf storageHints) ∧
    sourceRows "StorageParameters" = some (rowsOf storageParameters) ∧
    sourceRows "CollectionParameters" = some (rowsOf collectionParameters) ∧
    sourceRows "BlockParameters" = some (rowsOf blockParameters) ∧
    sourceRows "FilePreamble" = some (rowsOf filePreamble) ∧
    (["StorageHints", "StorageParameters", "CollectionParameters", "BlockParameters", "FilePreamble"].all readerWidthsAgree) = true ∧
    (Generated.schemaRoundTrips.all (·.2)) = true := by
  repeat' apply And.intro
  all_goals decide +kernel

/-- what the encoder writes for an unsigned member is read back as the same number -/
theorem uint_roundtrip (n : Nat) (h : n < 2 ^ 64) (rest : Bytes) :
    readUnsigned.run (C06.EncOp.spec (.u64 n) ++ rest) = .ok (n, rest) := by
  have := C07.readUnsigned_accepts (shortest n) n (shortest_fits n h) rest
  simpa [C06.EncOp.spec, preferredHead, Item.enc] using this

theorem text_roundtrip (bs : Bytes) (h : bs.length < 2 ^ 64) (fuel : Nat) (rest : Bytes) :
    (readTextstring fuel).run (C06.EncOp.spec (.textstring bs) ++ rest) = .ok (bs, rest) := by
  have := C07.readTextstring_accepts (shortest bs.length) bs (shortest_fits _ h) fuel rest
  simpa [C06.EncOp.spec, preferredHead, Item.enc] using this

theorem bytes_roundtrip (bs : Bytes) (h : bs.length < 2 ^ 64) (fuel : Nat) (rest : Bytes) :
    (readBytestring fuel).run (C06.EncOp.spec (.bytestring bs) ++ rest) = .ok (bs, rest) := by
  have := C07.readBytestring_accepts (shortest bs.length) bs (shortest_fits _ h) fuel rest
  simpa [C06.EncOp.spec, preferredHead, Item.enc] using this

theorem bool_roundtrip (b : Bool) (rest : Bytes) :
    readBool.run (C06.EncOp.spec (.bool b) ++ rest) = .ok (b, rest) := by
  cases b <;> rfl


open CdnsVerif.Model.Schema CdnsVerif.Model.Structs

/-- Generic struct round trip: any schema, any conforming value, any fuel the value needs. -/
theorem struct_roundtrip (k : Kind) (v : Val) (hc : Conforms k v) (fuel : Nat) (hf : need v ≤ fuel) (rest : Bytes) :
    (readVal fuel k).run (writeBytes k v ++ rest) = .ok (v, rest) :=
  (rt_all fuel).1 k v rest hc hf

/-- File preamble: every conforming preamble value survives write → read unchanged. -/
theorem preamble_roundtrip (v : Val) (hc : Conforms filePreamble v) (rest : Bytes) :
    (readVal (need v) filePreamble).run (writeBytes filePreamble v ++ rest) = .ok (v, rest) :=
  struct_roundtrip filePreamble v hc (need v) (Nat.le_refl _) rest

/-- what a struct writer emits is one well-formed item; declared lengths = members present -/
theorem struct_output_wellformed (k : Kind) (v : Val) (hc : Conforms k v) : (toItem k v).WF :=
  toItem_wf k v hc

/-! Non-vacuity: a struct with a required 8-bit member, an optional text member (absent) and a
    present-but-empty nested struct conforms, and the round trip applies to it. -/
def sampleKind : Kind := .struct [.mk 0 (.uint 8) true, .mk 1 .tstr false, .mk 2 (.struct [.mk 0 (.uint 64) false]) false,
                                  .mk 3 (.arr (.uint 16)) true]
def sampleVal : Val := .record [(0, .num 255), (2, .record []), (3, .list [.num 1, .num 65535])]

theorem sample_conforms : Conforms sampleKind sampleVal := conforms_of_conformsB _ _ (by decide)

example (rest : Bytes) : (readVal (need sampleVal) sampleKind).run (writeBytes sampleKind sampleVal ++ rest) = .ok (sampleVal, rest) :=
  struct_roundtrip sampleKind sampleVal sample_conforms _ (Nat.le_refl _) rest

end CdnsVerif.Props.C09
