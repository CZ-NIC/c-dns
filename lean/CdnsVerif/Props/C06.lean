/-
  C06 — CBOR encoder emits the RFC 8949 shortest form, independent of buffer position.
  (Second conjunct of `enc_step_spec` is the encoder-level half of C10.)

  `EncOp.spec` is written from RFC 8949 (`Spec.Cbor.preferredHead`, fixed codes), never from
  the model's `writeInt`.  The theorems quantify over every reachable encoder state
  (any fill level `0..BUFFER_SIZE`, any chunks already written) and every call sequence.
-/
import CdnsVerif.Proofs.Encoder

namespace CdnsVerif.Props.C06
open CdnsVerif.Spec.Cbor CdnsVerif.Model.Encoder

/-- argument ranges of the C++ parameter types -/
def EncOp.InRange : EncOp → Prop
  | .arrayStart n | .mapStart n | .u64 n => n < 2 ^ 64
  | .bytestring bs | .textstring bs => bs.length < 2 ^ 64
  | .u8 n => n < 2 ^ 8
  | .u16 n => n < 2 ^ 16
  | .u32 n => n < 2 ^ 32
  | .i8 v => -(2 ^ 7) ≤ v ∧ v < 2 ^ 7
  | .i16 v => -(2 ^ 15) ≤ v ∧ v < 2 ^ 15
  | .i32 v => -(2 ^ 31) ≤ v ∧ v < 2 ^ 31
  | .i64 v => -(2 ^ 63) ≤ v ∧ v < 2 ^ 63
  | _ => True

/-- RFC 8949 preferred encoding of an integer of the data model -/
def specInt (v : Int) : Bytes :=
  if v < 0 then preferredHead mNint (-1 - v).toNat else preferredHead mUint v.toNat

/-- What RFC 8949 says each call must append. -/
def EncOp.spec : EncOp → Bytes
  | .arrayStart n => preferredHead mArr n
  | .indefArrayStart => indefHead mArr
  | .mapStart n => preferredHead mMap n
  | .indefMapStart => indefHead mMap
  | .bytestring bs => preferredHead mBstr bs.length ++ bs
  | .textstring bs => preferredHead mTstr bs.length ++ bs
  | .bytestringNull => []
  | .textstringNull => []
  | .brk => [breakByte]
  | .bool b => [if b then 0xf5 else 0xf4]
  | .u8 n | .u16 n | .u32 n | .u64 n => preferredHead mUint n
  | .i8 v | .i16 v | .i32 v | .i64 v => specInt v

/-- One call, from ANY reachable state: the accepted stream grows by exactly the RFC 8949
    preferred encoding, the return value is the number of bytes appended, the state stays
    well-formed. -/
theorem enc_step_spec (op : EncOp) (hop : EncOp.InRange op) (s : EncSt) (hs : s.Inv) :
    (step s op).1.stream = s.stream ++ EncOp.spec op ∧
    (step s op).2 = (EncOp.spec op).length ∧
    (step s op).1.Inv := by
  cases op with
  | arrayStart n =>
    exact writeHead_spec s hs .w8 n hop mArr (by decide)
  | mapStart n =>
    exact writeHead_spec s hs .w8 n hop mMap (by decide)
  | indefArrayStart =>
    exact writeByte_spec s hs mArr 31 (by decide) (by decide)
  | indefMapStart =>
    exact writeByte_spec s hs mMap 31 (by decide) (by decide)
  | brk =>
    exact writeByte_spec s hs mSimple 31 (by decide) (by decide)
  | bytestring bs =>
    exact writeStr_spec s hs mBstr (by decide) bs hop
  | textstring bs =>
    exact writeStr_spec s hs mTstr (by decide) bs hop
  | bytestringNull | textstringNull => simp [step, EncOp.spec, hs]
  | bool b =>
    cases b
    · exact writeHead_spec s hs .imm 20 (by decide) mSimple (by decide)
    · exact writeHead_spec s hs .imm 21 (by decide) mSimple (by decide)
  | u8 n =>
    exact writeHead_spec s hs .w1 n hop mUint (by decide)
  | u16 n =>
    exact writeHead_spec s hs .w2 n hop mUint (by decide)
  | u32 n =>
    exact writeHead_spec s hs .w4 n hop mUint (by decide)
  | u64 n =>
    exact writeHead_spec s hs .w8 n hop mUint (by decide)
  | i8 v =>
    simp only [EncOp.InRange] at hop
    exact writeSigned_spec s hs .w1 v (show _ < 2 ^ 8 by split <;> omega)
  | i16 v =>
    simp only [EncOp.InRange] at hop
    exact writeSigned_spec s hs .w2 v (show _ < 2 ^ 16 by split <;> omega)
  | i32 v =>
    simp only [EncOp.InRange] at hop
    exact writeSigned_spec s hs .w4 v (show _ < 2 ^ 32 by split <;> omega)
  | i64 v =>
    simp only [EncOp.InRange] at hop
    exact writeSigned_spec s hs .w8 v (show _ < 2 ^ 64 by split <;> omega)

/-- Any call sequence from any reachable state: the stream is the concatenation of the
    preferred encodings in call order and the returns are their lengths. -/
theorem enc_run_spec (ops : List EncOp) (h : ∀ op ∈ ops, EncOp.InRange op) (s : EncSt) (hs : s.Inv) :
    (run s ops).1.stream = s.stream ++ (ops.map EncOp.spec).flatten ∧
    (run s ops).2 = ops.map (fun op => (EncOp.spec op).length) ∧
    (run s ops).1.Inv := by
  induction ops generalizing s with
  | nil => simp [run, hs]
  | cons op ops ih =>
    have h1 := enc_step_spec op (h op (by simp)) s hs
    have h2 := ih (fun o ho => h o (by simp [ho])) (step s op).1 h1.2.2
    simp only [run, List.map_cons, List.flatten_cons]
    refine ⟨?_, ?_, h2.2.2⟩
    · rw [h2.1, h1.1, List.append_assoc]
    · rw [h2.2.1, h1.2.1]

/-- What reaches the output once the encoder is flushed (destructor, `rotate_output`) is the
    whole accepted stream – nothing is left behind, nothing is written twice. -/
theorem finish_is_stream (s : EncSt) : finish s = s.stream := by
  have h := flush_stream s
  unfold EncSt.stream at h
  rw [flush_buf, List.append_nil] at h
  exact h

/-- End to end: a fresh encoder, any calls, then destruction. -/
theorem encoder_output (ops : List EncOp) (h : ∀ op ∈ ops, EncOp.InRange op) :
    finish (run EncSt.init ops).1 = (ops.map EncOp.spec).flatten ∧
    (run EncSt.init ops).2 = ops.map (fun op => (EncOp.spec op).length) := by
  have := enc_run_spec ops h EncSt.init init_inv
  rw [finish_is_stream, this.1]
  exact ⟨by simp [EncSt.init, EncSt.stream], this.2.1⟩

/-- The preferred head is the shortest head that can carry the argument (RFC 8949 §4.2.1). -/
theorem preferred_is_shortest (m v : Nat) (w : Width) (hw : w.fits v) :
    (preferredHead m v).length ≤ (head m w v).length := preferred_shortest m v w hw

/-- the heads are 1/2/3/5/9 bytes chosen by value -/
theorem preferred_head_lengths (m v : Nat) :
    (preferredHead m v).length =
      if v < 24 then 1 else if v < 256 then 2 else if v < 65536 then 3 else if v < 4294967296 then 5 else 9 := by
  rw [preferredHead, head_length, shortest]
  simp only [apply_ite Width.nbytes, apply_ite (1 + ·)]
  rfl

/-- two's-complement correctness of negative integers: the argument of a major-1 head for `v`
    is `-1 - v`, as RFC 8949 §3.1 defines -/
theorem negative_argument (v : Int) (h : v < 0) : specInt v = preferredHead mNint (-1 - v).toNat := by
  simp [specInt, h]

/-! Non-vacuity: a non-trivial reachable state (2040 bytes buffered, 8 left) satisfies the
    hypotheses, and the step theorem applies to a 9-byte head that must straddle the flush. -/
example : (run EncSt.init [.bytestring (List.replicate 2037 0)]).1.Inv ∧
          EncOp.InRange (.u64 (2 ^ 64 - 1)) := by
  refine ⟨?_, by simp [EncOp.InRange]⟩
  apply (enc_run_spec _ _ _ init_inv).2.2
  intro op h
  rw [List.mem_singleton] at h
  subst h
  show (List.replicate 2037 0).length < 2 ^ 64
  rw [List.length_replicate]; omega

end CdnsVerif.Props.C06
