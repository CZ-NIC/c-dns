/-
  C12 — buffering conserves records and flushes blocks exactly at the configured size.
  Model: `Model.Exporter` (CdnsExporter + the flush bookkeeping of CdnsBlock).
  All theorems hold for every parameter list, every call history and every size function.
-/
import CdnsVerif.Proofs.Exporter

namespace CdnsVerif.Props.C12
open CdnsVerif.Model.Exporter

variable (hdr : Nat → Nat) (bsz : Block → Nat)

def blocksOf (s : ExpSt) : List Block := (outputs s).flatMap (·.blocks)
/-- every query/response id held by the exporter: written blocks in output order, then the buffered block -/
def allQrs (s : ExpSt) : List Nat := (blocksOf s).flatMap (·.qrs) ++ s.cur.qrs
def allMms (s : ExpSt) : List Nat := (blocksOf s).flatMap (·.mms) ++ s.cur.mms
/-- total count of an address-event key over written blocks and the buffered block -/
def aecCount (k : Nat) (l : List (Nat × Nat)) : Nat := ((l.filter (·.1 == k)).map (·.2)).sum
def aecTotal (k : Nat) (s : ExpSt) : Nat := ((blocksOf s).map fun b => aecCount k b.aecs).sum + aecCount k s.cur.aecs

/-- the record (if any) a call hands over as storable, given the parameters in force -/
def acceptedQr (_s : ExpSt) : Op → List Nat
  | .qr id true _ => [id]
  | _ => []
def acceptedMm (s : ExpSt) : Op → List Nat
  | .mm id true _ => if (pset s s.cur.pi).mmOn then [id] else []
  | _ => []
def acceptedAec (k : Nat) (s : ExpSt) : Op → Nat
  | .aec key _ => if (pset s s.cur.pi).aecOn ∧ key = k then 1 else 0
  | _ => 0

def logQr (s : ExpSt) : List Op → List Nat
  | [] => []
  | op :: ops => acceptedQr s op ++ logQr (step hdr bsz s op).1 ops
def logMm (s : ExpSt) : List Op → List Nat
  | [] => []
  | op :: ops => acceptedMm s op ++ logMm (step hdr bsz s op).1 ops
def logAec (k : Nat) (s : ExpSt) : List Op → Nat
  | [] => 0
  | op :: ops => acceptedAec k s op + logAec k (step hdr bsz s op).1 ops

theorem blocksOf_def (s : ExpSt) : blocksOf s = s.done.flatMap (·.blocks) ++ s.out.blocks := by
  simp [blocksOf, outputs]

theorem blocksOf_closeOut (s : ExpSt) : blocksOf (closeOut s).1 = blocksOf s := by
  simp [blocksOf_def, closeOut]

theorem blocksOf_writeBlock (s : ExpSt) :
    blocksOf (writeBlock hdr bsz s).1 = blocksOf s ++ (if s.cur.items = 0 then [] else [s.cur]) := by
  simp [blocksOf_def, writeBlock_out_blocks]

/-- `g`: what is read off a block (its `qrs`, `mms` or `aecs`); `hg`: an empty block, which `writeBlock` drops, yields nothing -/
theorem writeBlock_held {β : Type} (g : Block → List β) (hg : ∀ b, b.items = 0 → g b = []) (s : ExpSt) :
    (blocksOf (writeBlock hdr bsz s).1).flatMap g ++ g (writeBlock hdr bsz s).1.cur = (blocksOf s).flatMap g ++ g s.cur := by
  rw [blocksOf_writeBlock, writeBlock_cur, hg (emptyBlock s.active) rfl]
  split
  · next hz => simp [hg _ hz]
  · simp

theorem step_held {β : Type} (g : Block → List β) (hg : ∀ b, b.items = 0 → g b = []) (s : ExpSt) (op : Op) :
    (blocksOf (step hdr bsz s op).1).flatMap g ++ g (step hdr bsz s op).1.cur = (blocksOf s).flatMap g ++ g (edit s op) :=
  step_ind' (P := fun t => (blocksOf t).flatMap g ++ g t.cur = (blocksOf s).flatMap g ++ g (edit s op)) hdr bsz s op
    (start := rfl)
    (write := fun t h => by rw [writeBlock_held hdr bsz g hg, h])
    (close := fun _ _ t h => by rw [← h, blocksOf_closeOut]; rfl)
    (params := fun p e => by subst e; simp [blocksOf_def, edit])
    (active := fun i e _ => by subst e; simp [blocksOf_def, edit])

theorem aecCount_append (k : Nat) (l₁ l₂ : List (Nat × Nat)) : aecCount k (l₁ ++ l₂) = aecCount k l₁ + aecCount k l₂ := by
  simp [aecCount]

theorem aecCount_cons (k : Nat) (x : Nat × Nat) (l : List (Nat × Nat)) : aecCount k (x :: l) = aecCount k [x] + aecCount k l :=
  aecCount_append k [x] l

theorem aecTotal_eq (k : Nat) (s : ExpSt) : aecTotal k s = aecCount k ((blocksOf s).flatMap (·.aecs) ++ s.cur.aecs) := by
  have : ∀ l : List Block, aecCount k (l.flatMap (·.aecs)) = (l.map fun b => aecCount k b.aecs).sum := by
    intro l; induction l with
    | nil => rfl
    | cons b l ih => simp only [List.flatMap_cons, aecCount_append, ih, List.map_cons, List.sum_cons]
  rw [aecTotal, aecCount_append, this]

theorem aecCount_bump (k key : Nat) (l : List (Nat × Nat)) :
    aecCount k (bumpAec key l) = aecCount k l + (if key = k then 1 else 0) := by
  induction l with
  | nil => by_cases h : key = k <;> simp [bumpAec, aecCount, h]
  | cons x xs ih =>
    obtain ⟨k', n⟩ := x
    unfold bumpAec
    split
    · next h1 => subst h1; by_cases h2 : k' = k <;> simp [aecCount, h2]; omega
    · rw [aecCount_cons, ih, aecCount_cons k _ xs]; omega

theorem edit_qrs (s : ExpSt) (op : Op) : (edit s op).qrs = s.cur.qrs ++ acceptedQr s op := by
  cases op with
  | qr id stored st => cases stored <;> simp [edit, acceptedQr]
  | aec key st | mm id stored st => simp only [edit]; split <;> simp [acceptedQr]
  | _ => simp [edit, acceptedQr]

theorem edit_mms (s : ExpSt) (op : Op) : (edit s op).mms = s.cur.mms ++ acceptedMm s op := by
  cases op with
  | qr id stored st => cases stored <;> simp [edit, acceptedMm]
  | aec key st => simp only [edit]; split <;> simp [acceptedMm]
  | mm id stored st => cases stored <;> cases h : (pset s s.cur.pi).mmOn <;> simp [edit, acceptedMm, h]
  | _ => simp [edit, acceptedMm]

theorem edit_aecs (k : Nat) (s : ExpSt) (op : Op) :
    aecCount k (edit s op).aecs = aecCount k s.cur.aecs + acceptedAec k s op := by
  cases op with
  | qr id stored st => cases stored <;> simp [edit, acceptedAec]
  | aec key st => cases h : (pset s s.cur.pi).aecOn <;> simp [edit, acceptedAec, h, aecCount_bump]
  | mm id stored st => simp only [edit]; split <;> simp [acceptedAec]
  | _ => simp [edit, acceptedAec]

theorem step_allQrs (s : ExpSt) (op : Op) : allQrs (step hdr bsz s op).1 = allQrs s ++ acceptedQr s op := by
  rw [allQrs, step_held hdr bsz _ (fun _ h => (items_eq_zero h).1), edit_qrs, allQrs, List.append_assoc]

theorem step_allMms (s : ExpSt) (op : Op) : allMms (step hdr bsz s op).1 = allMms s ++ acceptedMm s op := by
  rw [allMms, step_held hdr bsz _ (fun _ h => (items_eq_zero h).2.2), edit_mms, allMms, List.append_assoc]

theorem step_aecTotal (k : Nat) (s : ExpSt) (op : Op) :
    aecTotal k (step hdr bsz s op).1 = aecTotal k s + acceptedAec k s op := by
  rw [aecTotal_eq, step_held hdr bsz _ (fun _ h => (items_eq_zero h).2.1), aecCount_append, edit_aecs, aecTotal_eq, aecCount_append,
    Nat.add_assoc]

/-- Conservation: after any call history, the query/responses held in written blocks (in
    output and block order) followed by the buffered block are exactly the storable ones
    handed over, in submission order, each once. -/
theorem conservation_qr (s : ExpSt) (ops : List Op) :
    allQrs (run hdr bsz s ops).1 = allQrs s ++ logQr hdr bsz s ops := by
  induction ops generalizing s with
  | nil => simp [run, logQr]
  | cons op ops ih =>
    simp only [run, logQr]
    rw [ih, step_allQrs, List.append_assoc]

theorem conservation_mm (s : ExpSt) (ops : List Op) :
    allMms (run hdr bsz s ops).1 = allMms s ++ logMm hdr bsz s ops := by
  induction ops generalizing s with
  | nil => simp [run, logMm]
  | cons op ops ih =>
    simp only [run, logMm]
    rw [ih, step_allMms, List.append_assoc]

/-- every address-event key's total count equals the number of times it was buffered while enabled -/
theorem aec_totals (k : Nat) (s : ExpSt) (ops : List Op) :
    aecTotal k (run hdr bsz s ops).1 = aecTotal k s + logAec hdr bsz k s ops := by
  induction ops generalizing s with
  | nil => simp [run, logAec]
  | cons op ops ih =>
    simp only [run, logAec]
    rw [ih, step_aecTotal, Nat.add_assoc]

theorem conservation_fresh (psets : List PSet) (ops : List Op) :
    allQrs (run hdr bsz (ExpSt.init psets) ops).1 = logQr hdr bsz (ExpSt.init psets) ops ∧
    allMms (run hdr bsz (ExpSt.init psets) ops).1 = logMm hdr bsz (ExpSt.init psets) ops := by
  constructor
  · rw [conservation_qr]; simp [allQrs, blocksOf_def, ExpSt.init, emptyBlock]
  · rw [conservation_mm]; simp [allMms, blocksOf_def, ExpSt.init, emptyBlock]

/-- the size at which an array of the buffered block makes it `full`: `max_block_items` of the parameter set the block is filled under,
    or 1 if that is 0 (every record is then flushed as it comes) -/
def lim (s : ExpSt) : Nat := Nat.max 1 (pset s s.cur.pi).max

theorem lim_pos (s : ExpSt) : 0 < lim s := Nat.lt_of_lt_of_le (by decide) (Nat.le_max_left 1 _)

theorem lim_cur (s : ExpSt) (b : Block) (hpi : b.pi = s.cur.pi) : lim { s with cur := b } = lim s := by
  simp [lim, pset, hpi]

theorem flushIfFull_rule (s : ExpSt) (hb : ∀ b, 0 < bsz b) :
    let reached := s.cur.qrs.length ≥ lim s ∨ s.cur.aecs.length ≥ lim s ∨ s.cur.mms.length ≥ lim s
    ((flushIfFull hdr bsz s).2 ≠ 0 ↔ reached) ∧
    (reached → blocksOf (flushIfFull hdr bsz s).1 = blocksOf s ++ [s.cur]) ∧
    (¬ reached → blocksOf (flushIfFull hdr bsz s).1 = blocksOf s) := by
  -- a block goes out exactly when `full()` holds and the buffered block is not empty; the limit being `max 1 max`, that is `reached`
  intro reached
  have hlim : lim s = max 1 (pset s s.cur.pi).max := rfl
  have hr : reached ↔ full s = true ∧ s.cur.items ≠ 0 := by
    simp only [reached, full, Bool.or_eq_true, decide_eq_true_eq, Block.items]
    omega
  have hw : (writeBlock hdr bsz s).2 ≠ 0 ↔ s.cur.items ≠ 0 := by
    unfold writeBlock; split <;> simp [*]; have := hb s.cur; omega
  rw [hr]
  unfold flushIfFull
  by_cases hf : full s = true
  · simp only [hf, if_true, true_and, hw, blocksOf_writeBlock]
    exact ⟨fun h => by simp [h], fun h => by simp [Classical.not_not.1 h]⟩
  · simp [hf]

/-- The flush rule, for one buffer call: `s` is the state after the record was added to the
    buffered block.  A block is written (non-zero return) precisely when one of the three
    arrays has reached the limit (max 0 acting like 1); in that case exactly the buffered
    block is appended to the current output; otherwise no block is written. -/
theorem flush_rule (s : ExpSt) (hb : ∀ b, 0 < bsz b)
    (hone : (s.cur.qrs.length ≥ lim s ∨ s.cur.aecs.length ≥ lim s ∨ s.cur.mms.length ≥ lim s) → 0 < s.cur.items)
    (hzero : (pset s s.cur.pi).max = 0 → s.cur.qrs.length ≤ 1 ∧ s.cur.aecs.length ≤ 1 ∧ s.cur.mms.length ≤ 1) :
    let reached := s.cur.qrs.length ≥ lim s ∨ s.cur.aecs.length ≥ lim s ∨ s.cur.mms.length ≥ lim s
    ((flushIfFull hdr bsz s).2 ≠ 0 ↔ reached) ∧
    (reached → blocksOf (flushIfFull hdr bsz s).1 = blocksOf s ++ [s.cur]) ∧
    (¬ reached → blocksOf (flushIfFull hdr bsz s).1 = blocksOf s) :=
  flushIfFull_rule hdr bsz s hb

/-- between calls no array of the buffered block has reached the limit (max 0 acting like 1) -/
def CurInv (s : ExpSt) : Prop :=
  s.cur.qrs.length < lim s ∧ s.cur.aecs.length < lim s ∧ s.cur.mms.length < lim s

/-- a block as written by a buffer call: non-empty and no array above the limit of ITS parameters -/
def BlockOk (s : ExpSt) (b : Block) : Prop :=
  0 < b.items ∧ b.qrs.length ≤ Nat.max 1 (pset s b.pi).max ∧ b.aecs.length ≤ Nat.max 1 (pset s b.pi).max ∧
  b.mms.length ≤ Nat.max 1 (pset s b.pi).max

/-- `BlockOk` with the index in range, stated of the parameter list and not of the state: a written block has to stay ok while calls
    go on, and of the state only `psets` matters, which only grows (`blockOkP_append`) -/
def BlockOkP (ps : List PSet) (b : Block) : Prop :=
  b.pi < ps.length ∧ 0 < b.items ∧
  b.qrs.length ≤ Nat.max 1 ((ps[b.pi]?).getD ⟨10000, true, true⟩).max ∧
  b.aecs.length ≤ Nat.max 1 ((ps[b.pi]?).getD ⟨10000, true, true⟩).max ∧
  b.mms.length ≤ Nat.max 1 ((ps[b.pi]?).getD ⟨10000, true, true⟩).max

/-- both indices in use are in range, so `pset` never falls back on its default -/
def PInv (s : ExpSt) : Prop := s.active < s.psets.length ∧ s.cur.pi < s.psets.length

/-- between calls (`blocks_bounded`: after every history): indices in range, the buffered block below its limit, every written block
    non-empty and within the limit of the parameters it was filled under -/
def Inv (s : ExpSt) : Prop := PInv s ∧ CurInv s ∧ ∀ b ∈ blocksOf s, BlockOkP s.psets b

/-- during a call: the record just buffered may have brought an array up to the limit -/
def Weak (s : ExpSt) : Prop :=
  PInv s ∧ (s.cur.qrs.length ≤ lim s ∧ s.cur.aecs.length ≤ lim s ∧ s.cur.mms.length ≤ lim s) ∧
  ∀ b ∈ blocksOf s, BlockOkP s.psets b

theorem Inv.weak {s : ExpSt} (h : Inv s) : Weak s :=
  ⟨h.1, ⟨Nat.le_of_lt h.2.1.1, Nat.le_of_lt h.2.1.2.1, Nat.le_of_lt h.2.1.2.2⟩, h.2.2⟩

theorem writeBlock_inv (s : ExpSt) (h : Weak s) : Inv (writeBlock hdr bsz s).1 := by
  obtain ⟨hP, ⟨hq, ha, hm⟩, hB⟩ := h
  refine ⟨⟨by simpa using hP.1, by simpa [emptyBlock] using hP.1⟩, ?_, ?_⟩
  · have := lim_pos (writeBlock hdr bsz s).1
    simpa [CurInv, emptyBlock] using this
  · rw [blocksOf_writeBlock, writeBlock_psets]
    refine List.forall_mem_append.2 ⟨hB, ?_⟩
    split
    · nofun
    · next hz => exact List.forall_mem_singleton.2 ⟨hP.2, Nat.pos_of_ne_zero hz, hq, ha, hm⟩

theorem flushIfFull_inv (s : ExpSt) (h : Weak s) : Inv (flushIfFull hdr bsz s).1 := by
  unfold flushIfFull
  split
  · exact writeBlock_inv hdr bsz s h
  · next hf =>
    refine ⟨h.1, (?_ : CurInv s), h.2.2⟩
    simp only [full, Bool.or_eq_true, decide_eq_true_eq, not_or, Nat.not_le] at hf
    have : (pset s s.cur.pi).max ≤ lim s := Nat.le_max_right _ _
    exact ⟨by omega, by omega, by omega⟩

theorem blockOkP_append (ps : List PSet) (p : PSet) (b : Block) (h : BlockOkP ps b) : BlockOkP (ps ++ [p]) b := by
  unfold BlockOkP at *
  rw [List.getElem?_append_left h.1]
  exact ⟨by simp; omega, h.2⟩

theorem edit_weak (s : ExpSt) (h : Inv s) (op : Op) : Weak { s with cur := edit s op } := by
  have := edit_length s op
  refine ⟨⟨h.1.1, by simpa using h.1.2⟩, ?_, h.2.2⟩
  rw [lim_cur _ _ (edit_pi s op)]
  obtain ⟨_, ⟨_, _, _⟩, _⟩ := h
  show (edit s op).qrs.length ≤ _ ∧ (edit s op).aecs.length ≤ _ ∧ (edit s op).mms.length ≤ _
  exact ⟨by omega, by omega, by omega⟩

theorem closeOut_inv (s : ExpSt) (h : Inv s) : Inv (closeOut s).1 :=
  ⟨h.1, h.2.1, blocksOf_closeOut s ▸ h.2.2⟩

theorem step_inv (s : ExpSt) (hs : Inv s) (op : Op) : Inv (step hdr bsz s op).1 := by
  -- not by `step_ind`: after the edit only `Weak` holds, and the strict bound comes back by the very test `flushIfFull` makes, which `step_ind` hides
  have he := edit_weak s hs op
  cases op with
  | qr id stored st => exact flushIfFull_inv hdr bsz _ he
  | aec key st | mm id stored st =>
    -- disabled: only the statistics change, which `Inv` does not look at; enabled: the edited block goes through the flush
    simp only [step, edit] at he ⊢
    split
    · cases st <;> exact hs
    · next hon => simp only [Bool.not_eq_true', Bool.not_eq_false] at hon; rw [hon] at he; exact flushIfFull_inv hdr bsz _ he
  | writeBlock => exact writeBlock_inv hdr bsz s hs.weak
  | rotate ex =>
    rw [step_rotate]
    apply closeOut_inv
    cases ex
    · exact hs
    · exact writeBlock_inv hdr bsz s hs.weak
  | addParams p =>
    obtain ⟨hP, hC, hB⟩ := hs
    refine ⟨⟨by simp [step]; have := hP.1; omega, by simp [step]; have := hP.2; omega⟩, ?_, fun b hbm => blockOkP_append _ _ _ (hB b hbm)⟩
    simpa [CurInv, lim, pset, step, List.getElem?_append_left hP.2] using hC
  | setActive i =>
    simp only [step]
    split
    · exact hs
    · exact ⟨⟨by simp; omega, hs.1.2⟩, hs.2.1, hs.2.2⟩

theorem init_inv (psets : List PSet) (h : psets ≠ []) : Inv (ExpSt.init psets) := by
  have : 0 < psets.length := List.length_pos_iff.2 h
  refine ⟨⟨this, this⟩, ?_, ?_⟩
  · have := lim_pos (ExpSt.init psets)
    exact ⟨this, this, this⟩
  · intro b hb; simp [blocksOf_def, ExpSt.init] at hb

/-- After ANY call history on an exporter constructed with at least one parameter set:
    every block written is non-empty, none of its three arrays exceeds `max(1, max_block_items)`
    of the parameters it was filled under, and the buffered block is below the limit. -/
theorem blocks_bounded (psets : List PSet) (h : psets ≠ []) (ops : List Op) :
    Inv (run hdr bsz (ExpSt.init psets) ops).1 :=
  run_ind (P := fun _ => Inv) hdr bsz (fun s op _ hs => step_inv hdr bsz s hs op) ops _ (init_inv psets h)

/-- the counters the exporter reports are the sizes of the buffered block / the number of blocks
    written to the current output – by definition of the model, also after `setActive` -/
theorem counters_match (s : ExpSt) :
    counters s = (s.cur.qrs.length + s.cur.aecs.length + s.cur.mms.length, s.cur.qrs.length, s.cur.aecs.length,
                  s.cur.mms.length, s.blocksWritten) := rfl

/-! Non-vacuity: a concrete history (max 2, a hint-dropped record, a flush, a rotation). -/
example : (run (fun _ => 10) (fun _ => 5) (ExpSt.init [⟨2, true, false⟩])
    [.qr 1 true none, .mm 7 true none, .qr 2 false (some 9), .qr 3 true none, .aec 4 none, .rotate true]).2
    = [.bytes 0, .bytes 0, .bytes 0, .bytes 15, .bytes 0, .bytes 6] := by decide

end CdnsVerif.Props.C12
