/-
  C05 — end of input is always detected; a truncated file yields only complete blocks.

  Part 1 (`readToBuffer_spec`, `runW_refines`): the window/istream state machine refines the
  plain "remaining input" view for EVERY decoder program: a byte is returned exactly when one
  is left, `CdnsDecoderEnd` is thrown exactly when none is – for an empty input, an input of
  exactly k·65535 bytes, an unreadable stream; never a stale byte.
  Part 2 (`end_is_sticky`, `after_end_every_call_ends`, `read_block_again_ends`): the state a throwing `read_to_buffer()`
  leaves behind (`runWS` keeps it) makes it throw again: every later read, peek or `read_block()` reports the end again.
  Part 3 (`run_append`, `run_prefix`; `readAll_append`, `prefix_blocks_sound`, `prefix_blocks`): extension stability of every
  decoder program and so of every reader that repeats one, hence on a prefix of an input a reader returns exactly the leading
  blocks of the full input that lie inside the prefix and then fails with end-of-input.
  Part 4 (`truncated_blocks`, `truncated_output`): the concrete block reader (the schema model of
  `CdnsReader::read_block`, `Model.File.readBlock`) on a block array cut at ANY byte offset: it
  returns exactly the blocks wholly inside the cut – for the exporter's own encoding and for every
  equivalent well-formed re-encoding of the blocks – then `CdnsDecoderEnd`; a cut inside a block never
  yields a value (`readBlock_cut`).  Parts 1 and 4 compose through `runW_refines` (any window offset).
-/
import CdnsVerif.Proofs.StructsSource
import CdnsVerif.Model.Window
import CdnsVerif.Model.File
import CdnsVerif.Proofs.Denote
import CdnsVerif.Proofs.DenoteWrite
import CdnsVerif.Proofs.Decoder

namespace CdnsVerif.Props.C05
open CdnsVerif.Spec.Cbor CdnsVerif.Model CdnsVerif.Model.Window

theorem bufferSize_pos : 0 < bufferSize := by decide

/-- state invariant: once eofbit is set the stream delivers nothing more -/
def Inv (s : DecSt) : Prop := s.inp.eof = true → s.inp.good = false

theorem inv_ofBytes (d : Bytes) : Inv (DecSt.ofBytes d) := by intro h; cases h
theorem inv_unreadable : Inv DecSt.unreadable := by intro _; rfl
theorem abs_ofBytes (d : Bytes) : (DecSt.ofBytes d).abs = d := by simp [DecSt.ofBytes, DecSt.abs]
theorem abs_unreadable : DecSt.unreadable.abs = [] := by simp [DecSt.unreadable, DecSt.abs]

/-! non-vacuity of `Inv` at the boundary: an input of exactly one full window -/
example : Inv (DecSt.ofBytes (List.replicate 65535 1)) := inv_ofBytes _

theorem read_cases (s : IStream) (n : Nat) :
    (s.good = false ∧ s.read n = ([], s)) ∨
    (s.good = true ∧ s.data.length < n ∧ s.read n = (s.data, ⟨[], true, false⟩)) ∨
    (s.good = true ∧ n ≤ s.data.length ∧ s.read n = (s.data.take n, { s with data := s.data.drop n })) := by
  unfold IStream.read
  cases hg : s.good
  · exact Or.inl ⟨rfl, rfl⟩
  · by_cases hl : s.data.length < n
    · exact Or.inr (Or.inl ⟨rfl, hl, by simp [hl]⟩)
    · exact Or.inr (Or.inr ⟨rfl, Nat.le_of_not_lt hl, by simp [hl]⟩)

theorem take_ne_nil {l : Bytes} {n : Nat} (hn : 0 < n) (h : n ≤ l.length) : l.take n ≠ [] := by
  intro e
  have := congrArg List.length e
  rw [List.length_take, List.length_nil] at this
  omega

/-- `read_to_buffer()` throws `CdnsDecoderEnd` exactly when no input is left; otherwise it
    leaves a non-empty window and the same remaining input. -/
theorem readToBuffer_spec (s : DecSt) (hs : Inv s) :
    match readToBuffer s with
    | .error e => e = .end_ ∧ s.abs = []
    | .ok s' => s'.abs = s.abs ∧ s'.win ≠ [] ∧ Inv s' := by
  unfold readToBuffer
  by_cases hw : s.win = []
  · simp only [hw, if_true, DecSt.abs, List.nil_append]
    by_cases he : s.inp.eof = true
    · simp [he, hs he]
    · simp only [he, Bool.false_eq_true, if_false]
      rcases read_cases s.inp bufferSize with ⟨hg, hr⟩ | ⟨hg, hl, hr⟩ | ⟨hg, hl, hr⟩
      · rw [hr]
        simp [hg]
      · rw [hr]
        by_cases hd : s.inp.data = []
        · simp [hd, hg]
        · simp [hd, hg, Inv]
      · rw [hr]
        simp [hg, take_ne_nil bufferSize_pos hl, Inv, he]
  · simp only [hw, if_false]
    exact ⟨trivial, hw, hs⟩

theorem fetch_spec (s : DecSt) (hs : Inv s) :
    (readToBuffer s = .error .end_ ∧ s.abs = []) ∨
    ∃ b w inp, readToBuffer s = .ok ⟨b :: w, inp⟩ ∧ s.abs = b :: (⟨w, inp⟩ : DecSt).abs ∧ Inv ⟨w, inp⟩ := by
  have h := readToBuffer_spec s hs
  cases hr : readToBuffer s with
  | error e =>
    rw [hr] at h
    exact Or.inl ⟨by rw [h.1], h.2⟩
  | ok s' =>
    rw [hr] at h
    obtain ⟨win, inp⟩ := s'
    cases win with
    | nil => exact absurd rfl h.2.1
    | cons b w => exact Or.inr ⟨b, w, inp, rfl, h.1.symm, h.2.2⟩

/-- The real decoder state refines the plain remaining-input view, for every program. -/
theorem runW_refines (p : Prog α) (s : DecSt) (hs : Inv s) :
    match runW p s with
    | .ok (a, s') => p.run s.abs = .ok (a, s'.abs) ∧ Inv s'
    | .error e => p.run s.abs = .error e := by
  induction p generalizing s with
  | pure a => exact ⟨rfl, hs⟩
  | throw e => rfl
  | next k ih | peek k ih =>
    rcases fetch_spec s hs with ⟨hr, ha⟩ | ⟨b, w, inp, hr, ha, hi⟩
    · simp only [runW, hr, ha]
      rfl
    · -- `Inv` looks at the stream only, so `hi` serves whether the byte stays in the window or not
      simp only [runW, hr, ha, Prog.run_next_cons, Prog.run_peek_cons]
      exact ih b _ hi

/-- the first-operation reading of the property: a fresh decoder's first `peek`/`read` on an
    exhausted stream (empty, or unreadable) reports end of input -/
theorem first_op_on_exhausted (p : Nat → Prog α) :
    runW (.next p) (DecSt.ofBytes []) = .error .end_ ∧ runW (.peek p) (DecSt.ofBytes []) = .error .end_ ∧
    runW (.next p) DecSt.unreadable = .error .end_ ∧ runW (.peek p) DecSt.unreadable = .error .end_ :=
  ⟨rfl, rfl, rfl, rfl⟩

/-- a byte is returned exactly when one is left, and it is THE next byte of the input -/
theorem next_refines (s : DecSt) (hs : Inv s) :
    match runW (.next Prog.pure) s with
    | .ok (b, s') => s.abs = b :: s'.abs ∧ Inv s'
    | .error e => e = .end_ ∧ s.abs = [] := by
  rcases fetch_spec s hs with ⟨hr, ha⟩ | ⟨b, w, inp, hr, ha, hi⟩
  · simp only [runW, hr, ha, and_self]
  · simp only [runW, hr]
    exact ⟨ha, hi⟩

/-- `runWS` is `runW` with the state kept across a throw -/
theorem runWS_runW (p : Prog α) (s : DecSt) :
    runW p s = match runWS p s with
      | (.ok a, s') => .ok (a, s')
      | (.error e, _) => .error e := by
  induction p generalizing s with
  | pure a => rfl
  | throw e => rfl
  | next k ih | peek k ih =>
    simp only [runW, runWS]
    split
    · rfl
    · split
      · rfl
      · exact ih _ _

/-- **End of input is sticky.**  When `read_to_buffer()` has thrown the end-of-input error, the state it leaves behind makes it
    throw again: a decoder that has reported the end never fabricates a value on a later call. -/
theorem end_is_sticky (s : DecSt) (h : readToBuffer s = .error .end_) : readToBuffer (afterRefill s) = .error .end_ := by
  unfold readToBuffer at h
  unfold afterRefill
  by_cases hw : s.win = []
  · simp only [hw, if_true] at h ⊢
    by_cases he : s.inp.eof = true
    · unfold readToBuffer; simp only [hw, if_true, he]
    · simp only [he, Bool.false_eq_true, if_false] at h ⊢
      unfold readToBuffer
      -- the refill delivered nothing: the stream had failed before (and then delivers nothing again), or is now at its end
      rcases read_cases s.inp bufferSize with ⟨hg, hr⟩ | ⟨hg, hl, hr⟩ | ⟨hg, hl, hr⟩
      · simp [he, hr]
      · rw [hr] at h ⊢
        by_cases hd : s.inp.data = []
        · simp [hd]
        · simp [hd] at h
      · rw [hr] at h
        simp [take_ne_nil bufferSize_pos hl] at h
  · simp only [hw, if_false] at h; cases h

/-- consequently every further read or peek on that decoder object reports the end again -/
theorem after_end_every_call_ends (s : DecSt) (h : readToBuffer s = .error .end_) (k : Nat → Prog α) :
    (runWS (.next k) (afterRefill s)).1 = .error .end_ ∧ (runWS (.peek k) (afterRefill s)).1 = .error .end_ := by
  simp only [runWS, end_is_sticky s h, and_self]

theorem ends_of_isNext {p : Prog α} (hp : Proofs.Fuel.IsNext p) (s : DecSt) (h : readToBuffer s = .error .end_) :
    (runWS p (afterRefill s)).1 = .error .end_ := by
  cases p with
  | next k => exact (after_end_every_call_ends s h k).1
  | _ => cases hp

open CdnsVerif.Model.File CdnsVerif.Model.Schema CdnsVerif.Model.Structs in
/-- **`read_block()` called again after the end of the input was reported reports it again.**  Whatever the reader state – an
    indefinite block array, or a definite one of which blocks are still outstanding – the call neither hands out a block nor
    claims the regular end of the file (`eof`), and (the reader state being advanced only after a successful read) this
    holds for every further call as well. -/
theorem read_block_again_ends (fuel : Nat) (st : RdSt) (s : DecSt) (h : readToBuffer s = .error .end_)
    (hmore : st.indef = true ∨ st.read ≠ st.count) :
    (runWS (readBlock (fuel + 1) st) (afterRefill s)).1 = .error .end_ := by
  unfold readBlock
  by_cases hi : st.indef = true
  · -- the call begins with `peek_type()`
    simp only [hi, if_true]
    exact (after_end_every_call_ends s h _).2
  · -- it begins with the head byte of the block's map
    simp only [hi, Bool.false_eq_true, if_false, hmore.resolve_left hi]
    refine ends_of_isNext (Proofs.Fuel.isNext_bind _ ?_) s h
    unfold block readVal
    exact Proofs.Fuel.isNext_bind _ (Proofs.Fuel.isNext_readStart _)

/-- what a program does on an input is unchanged by appending more input, unless it ran
    into the end -/
theorem run_append (p : Prog α) (bs ext : Bytes) :
    match p.run bs with
    | .ok (a, r) => p.run (bs ++ ext) = .ok (a, r ++ ext)
    | .error e => e = .end_ ∨ p.run (bs ++ ext) = .error e := by
  induction p generalizing bs with
  | pure a => rfl
  | throw e => exact Or.inr rfl
  | next k ih | peek k ih =>
    cases bs with
    | nil => exact Or.inl rfl
    | cons b bs => exact ih b _

/-- Reading a prefix of an input either agrees with reading the whole input (same value, the
    cut-off part still unread) or ends with end-of-input: no value is ever fabricated. -/
theorem run_prefix (p : Prog α) (bs : Bytes) (n : Nat) :
    p.run (bs.take n) = .error .end_ ∨
    (∃ a r, p.run (bs.take n) = .ok (a, r) ∧ p.run bs = .ok (a, r ++ bs.drop n)) ∨
    (∃ e, p.run (bs.take n) = .error e ∧ p.run bs = .error e) := by
  have h := run_append p (bs.take n) (bs.drop n)
  rw [List.take_append_drop] at h
  cases hr : p.run (bs.take n) with
  | ok x =>
    obtain ⟨a, r⟩ := x
    rw [hr] at h
    exact Or.inr (Or.inl ⟨a, r, rfl, h⟩)
  | error e =>
    rw [hr] at h
    rcases h with h | h
    · exact Or.inl (by rw [h])
    · exact Or.inr (Or.inr ⟨e, rfl, h⟩)

theorem run_cut {q : Prog γ} {pre : Bytes} {x : γ} (h : q.run pre = .ok (x, [])) {n : Nat} (hn : n < pre.length) :
    q.run (pre.take n) = .error .end_ := by
  rcases run_prefix q pre n with h1 | ⟨a, r, _, h2⟩ | ⟨e, _, h2⟩
  · exact h1
  · -- a value from `pre.take n` would leave `pre.drop n ≠ []` unread in `pre`
    rw [h, Except.ok.injEq, Prod.mk.injEq, List.nil_eq, List.append_eq_nil_iff, List.drop_eq_nil_iff] at h2
    exact absurd h2.2.2 (Nat.not_le_of_lt hn)
  · rw [h] at h2
    cases h2

/-- repeatedly run a block-reading step (`none` = the reader reports its normal end);
    returns the blocks with the number of input bytes consumed up to each block's end.  The fuel bounds the number of steps;
    when it runs out the result ends in `some .other`, which `items.length < N` rules out in `truncated_blocks` -/
def readAll (p : σ → Prog (Option β × σ)) : Nat → σ → Nat → Bytes → List (β × Nat) × Option Err
  | 0, _, _, _ => ([], some .other)
  | fuel+1, st, c, bs =>
    match (p st).run bs with
    | .ok ((some a, st'), r) =>
      let c' := c + (bs.length - r.length)
      let (as, e) := readAll p fuel st' c' r
      ((a, c') :: as, e)
    | .ok ((none, _), _) => ([], none)
    | .error e => ([], some e)

/-- the input in the form in which `Prog.run_suffix` delivers it: the offset is `c + pre.length` -/
theorem readAll_some {p : σ → Prog (Option β × σ)} {st st' : σ} {pre r : Bytes} {a : β}
    (h : (p st).run (pre ++ r) = .ok ((some a, st'), r)) (fuel c : Nat) :
    readAll p (fuel + 1) st c (pre ++ r) =
      ((a, c + pre.length) :: (readAll p fuel st' (c + pre.length) r).1, (readAll p fuel st' (c + pre.length) r).2) := by
  rw [readAll, h]
  simp only [List.length_append, Nat.add_sub_cancel]

theorem readAll_none {p : σ → Prog (Option β × σ)} {st st' : σ} {bs r : Bytes}
    (h : (p st).run bs = .ok ((none, st'), r)) (fuel c : Nat) : readAll p (fuel + 1) st c bs = ([], none) := by
  rw [readAll, h]

theorem readAll_error {p : σ → Prog (Option β × σ)} {st : σ} {bs : Bytes} {e : Err}
    (h : (p st).run bs = .error e) (fuel c : Nat) : readAll p (fuel + 1) st c bs = ([], some e) := by
  rw [readAll, h]

/-- a step is tight when it never looks beyond the last byte it consumes -/
def Tight (q : Prog γ) : Prop :=
  ∀ bs x r, q.run bs = .ok (x, r) → q.run (bs.take (bs.length - r.length)) = .ok (x, [])

theorem readAll_range (p : σ → Prog (Option β × σ)) (fuel : Nat) (st : σ) (c : Nat) (bs : Bytes) :
    ∀ x ∈ (readAll p fuel st c bs).1, c ≤ x.2 ∧ x.2 ≤ c + bs.length := by
  fun_induction readAll p fuel st c bs with
  | case2 fuel st c bs a st' r hr c' as e hrec ih =>
    obtain ⟨pre, rfl⟩ := Prog.run_suffix hr
    rw [hrec] at ih
    intro x hx
    rcases List.mem_cons.1 hx with rfl | hx
    · omega
    · have := ih x hx
      simp only [c', List.length_append] at this ⊢; omega
  | case1 | case3 | case4 => intro x hx; cases hx

theorem readAll_append (p : σ → Prog (Option β × σ)) (fuel : Nat) (st : σ) (c : Nat) (bs ext : Bytes) :
    readAll p fuel st c bs = readAll p fuel st c (bs ++ ext) ∨
    ((readAll p fuel st c bs).2 = some .end_ ∧ (readAll p fuel st c bs).1 <+: (readAll p fuel st c (bs ++ ext)).1) := by
  induction fuel generalizing st c bs with
  | zero => exact .inl rfl
  | succ fuel ih =>
    have h := run_append (p st) bs ext
    cases hr : (p st).run bs with
    | error e =>
      rw [hr] at h
      rw [readAll_error hr]
      rcases h with rfl | h
      · exact .inr ⟨rfl, List.nil_prefix⟩
      · rw [readAll_error h]; exact .inl rfl
    | ok v =>
      obtain ⟨⟨o, st'⟩, r⟩ := v
      rw [hr] at h
      cases o with
      | none => rw [readAll_none hr, readAll_none h]; exact .inl rfl
      | some a =>
        obtain ⟨pre, rfl⟩ := Prog.run_suffix hr
        rw [List.append_assoc] at h ⊢
        rw [readAll_some hr, readAll_some h]
        rcases ih st' (c + pre.length) r with e | ⟨e1, e2⟩
        · exact .inl (by rw [e])
        · exact .inr ⟨e1, List.cons_prefix_cons.2 ⟨rfl, e2⟩⟩

/-- For every reader built from decoder programs and every cut point: reading the prefix
    returns blocks identical to the leading blocks of the full input, every one of them lies
    wholly inside the prefix, and unless the reader finished it fails with end-of-input.
    (Soundness half: holds for every reader.) -/
theorem prefix_blocks_sound (p : σ → Prog (Option β × σ)) (fuel : Nat) (st : σ) (c : Nat) (bs : Bytes) (n : Nat)
    (hn : n ≤ bs.length) (blocks : List (β × Nat)) (hfull : readAll p fuel st c bs = (blocks, none)) :
    ∃ k, (readAll p fuel st c (bs.take n)).1 = blocks.take k ∧
      (∀ x ∈ blocks.take k, x.2 ≤ c + n) ∧
      ((readAll p fuel st c (bs.take n)).2 = some .end_ ∨
       ((readAll p fuel st c (bs.take n)).2 = none ∧ k = blocks.length)) := by
  have hr := readAll_range p fuel st c (bs.take n)
  rw [List.length_take, Nat.min_eq_left hn] at hr
  have h := readAll_append p fuel st c (bs.take n) (bs.drop n)
  rw [List.take_append_drop, hfull] at h
  rcases h with h | ⟨h1, h2⟩
  · rw [h] at hr ⊢
    exact ⟨blocks.length, List.take_length.symm, by rw [List.take_length]; exact fun x hx => (hr x hx).2, .inr ⟨rfl, rfl⟩⟩
  · have e := List.prefix_iff_eq_take.1 h2
    exact ⟨_, e, by rw [← e]; exact fun x hx => (hr x hx).2, .inl h1⟩

/-- the list side of `readAll_cut` (`h`: the later blocks end behind the first) -/
theorem filter_cut {a : β} {c len : Nat} {l : List (β × Nat)} (h : ∀ x ∈ l, c + len ≤ x.2) (n : Nat) :
    ((a, c + len) :: l).filter (fun x => decide (x.2 ≤ c + n)) =
      if n < len then [] else (a, c + len) :: l.filter (fun x => decide (x.2 ≤ c + len + (n - len))) := by
  split
  · rw [List.filter_eq_nil_iff]
    intro y hy
    rcases List.mem_cons.1 hy with rfl | hy
    · simp only [decide_eq_true_eq]; omega
    · have := h y hy
      simp only [decide_eq_true_eq]; omega
  · rw [List.filter_cons, if_pos (by simp only [decide_eq_true_eq]; omega), show c + len + (n - len) = c + n by omega]

/-- `h`: the step takes exactly `pre`.  Cut inside `pre` it meets the end of the input; cut behind it, it does what it does on the whole
    input and the run goes on in what is left of `ext` -/
theorem readAll_cut {p : σ → Prog (Option β × σ)} {st st' : σ} {pre : Bytes} {o : Option β}
    (h : (p st).run pre = .ok ((o, st'), [])) (fuel c : Nat) (ext : Bytes) (n : Nat) :
    readAll p (fuel + 1) st c ((pre ++ ext).take n) =
      if n < pre.length then ([], some .end_)
      else match o with
        | none => ([], none)
        | some a => ((a, c + pre.length) :: (readAll p fuel st' (c + pre.length) (ext.take (n - pre.length))).1,
                     (readAll p fuel st' (c + pre.length) (ext.take (n - pre.length))).2) := by
  split
  · rename_i hn
    rw [List.take_append_of_le_length (Nat.le_of_lt hn), readAll_error (run_cut h hn)]
  · rename_i hn
    have hcut := run_append (p st) pre (ext.take (n - pre.length))
    rw [h] at hcut
    rw [List.take_append, List.take_of_length_le (Nat.le_of_not_lt hn)]
    cases o with
    | none => exact readAll_none hcut fuel c
    | some a => exact readAll_some hcut fuel c

/-- For a reader whose steps are tight (they never look beyond the last byte they consume) at the states of an invariant
    `R` the run stays in: reading a prefix returns
    EXACTLY the blocks of the full input that lie wholly inside the prefix. -/
theorem prefix_blocks_inv (p : σ → Prog (Option β × σ)) (R : σ → Bytes → Prop)
    (hT : ∀ st bs x r, R st bs → (p st).run bs = .ok (x, r) → (p st).run (bs.take (bs.length - r.length)) = .ok (x, []))
    (hR : ∀ st bs a st' r, R st bs → (p st).run bs = .ok ((some a, st'), r) → R st' r)
    (fuel : Nat) (st : σ) (c : Nat)
    (bs : Bytes) (h0 : R st bs) (n : Nat) (hn : n ≤ bs.length) (blocks : List (β × Nat))
    (hfull : readAll p fuel st c bs = (blocks, none)) :
    (readAll p fuel st c (bs.take n)).1 = blocks.filter (fun x => decide (x.2 ≤ c + n)) := by
  induction fuel generalizing st c bs n blocks with
  | zero => simp [readAll] at hfull
  | succ fuel ih =>
    cases hr : (p st).run bs with
    | error e => rw [readAll_error hr] at hfull; cases hfull
    | ok v =>
      obtain ⟨⟨o, st'⟩, r⟩ := v
      -- tight at `bs`: the step takes exactly what precedes its rest
      obtain ⟨pre, rfl⟩ := Prog.run_suffix hr
      have ht : (p st).run pre = .ok ((o, st'), []) := by simpa using hT st _ _ r h0 hr
      rw [readAll_cut ht]
      cases o with
      | none =>
        rw [readAll_none hr] at hfull
        obtain ⟨rfl, _⟩ := Prod.mk.inj hfull
        split <;> rfl
      | some a =>
        rw [readAll_some hr] at hfull
        obtain ⟨rfl, he⟩ := Prod.mk.inj hfull
        rw [filter_cut (fun x hx => (readAll_range p fuel st' _ r x hx).1) n]
        split
        · rfl
        · exact congrArg _ (ih st' (c + pre.length) r (hR st _ a st' r h0 hr) (n - pre.length)
            (by rw [List.length_append] at hn; omega) _ (Prod.ext rfl he))

/-- For a reader whose steps are tight everywhere (as the library's block reader should be: its items are either of definite
    length or closed by a stop code it reads; not proved of `readBlock`, for which `truncated_blocks` is shown directly). -/
theorem prefix_blocks (p : σ → Prog (Option β × σ)) (hT : ∀ st, Tight (p st)) (fuel : Nat) (st : σ) (c : Nat)
    (bs : Bytes) (n : Nat) (hn : n ≤ bs.length) (blocks : List (β × Nat))
    (hfull : readAll p fuel st c bs = (blocks, none)) :
    (readAll p fuel st c (bs.take n)).1 = blocks.filter (fun x => decide (x.2 ≤ c + n)) :=
  prefix_blocks_inv p (fun _ _ => True) (fun st bs x r _ h => hT st bs x r h) (fun _ _ _ _ _ _ _ => trivial)
    fuel st c bs trivial n hn blocks hfull

/-! ### file level: the block reader of the schema model on a truncated block array

  `items` are ANY well-formed encodings of blocks (the exporter's or equivalent re-encodings), `vals` the
  block values they denote; the body of the block array is `items` followed by the stop code. -/

open CdnsVerif.Model.Decoder CdnsVerif.Model.Schema CdnsVerif.Model.Structs CdnsVerif.Model.File

/-- each block value with the offset at which its encoding ends -/
def ends : Nat → List Item → List Val → List (Val × Nat)
  | c, i :: is, v :: vs => (v, c + i.enc.length) :: ends (c + i.enc.length) is vs
  | _, _, _ => []

/-- the encodings `items` denote the block values `vals` -/
def Denotes : List Item → List Val → Prop
  | [], [] => True
  | i :: is, v :: vs => i.WF ∧ denote block i = some v ∧ Denotes is vs
  | _, _ => False

theorem ends_ge (c : Nat) (items : List Item) (vals : List Val) : ∀ x ∈ ends c items vals, c ≤ x.2 := by
  fun_induction ends c items vals with
  | case1 c i is v vs ih =>
    intro x hx
    rcases List.mem_cons.1 hx with rfl | hx
    · exact Nat.le_add_right ..
    · exact Nat.le_trans (Nat.le_add_right ..) (ih x hx)
  | case2 => intro x hx; cases hx

theorem readBlock_block (fuel : Nat) (st : RdSt) (hst : st.indef = true) (i : Item) (v : Val) (hwf : i.WF)
    (hd : denote block i = some v) (hf : steps i + cfuel i ≤ fuel) (rest : Bytes) :
    (readBlock fuel st).run (i.enc ++ rest) = .ok ((some v, { st with read := st.read + 1 }), rest) := by
  unfold readBlock
  simp only [hst, if_true]
  apply run_peek_item i hwf
  intro t ht
  simp only [ht, if_false]
  rw [Prog.run_bind_ok ((rd_all fuel).1 block i v rest hwf hd hf)]
  rfl

/-- a strict prefix of a block makes the reader fail with end-of-input – never with a value -/
theorem readBlock_cut (fuel : Nat) (st : RdSt) (hst : st.indef = true) (i : Item) (v : Val) (hwf : i.WF)
    (hd : denote block i = some v) (hf : steps i + cfuel i ≤ fuel) (n : Nat) (hn : n < i.enc.length) :
    (readBlock fuel st).run (i.enc.take n) = .error .end_ :=
  run_cut (by simpa using readBlock_block fuel st hst i v hwf hd hf []) hn

theorem readBlock_at_break (fuel : Nat) (st : RdSt) (hst : st.indef = true) (rest : Bytes) :
    (readBlock fuel st).run (breakByte :: rest) = (endOfFile { st with indef := false, count := st.read }).run rest := by
  unfold readBlock
  simp only [hst, if_true]
  rw [peek_break]
  simp only [if_true]
  rw [Prog.run_bind_ok (readBreak_accepts rest)]

/-- **Truncated file.**  Reading the first `n` bytes of a block array returns EXACTLY the blocks that lie wholly
    inside those `n` bytes – identical to the blocks of the whole file, in order – and then fails with
    end-of-input (or reports the normal end when nothing was cut off). -/
theorem truncated_blocks (fuel : Nat) (items : List Item) (vals : List Val) (hden : Denotes items vals)
    (hf : ∀ i ∈ items, steps i + cfuel i ≤ fuel) (N : Nat) (hN : items.length < N) (st : RdSt) (hst : st.indef = true)
    (hout : st.outer = false) (c n : Nat) (hn : n ≤ (Item.encList items ++ [breakByte]).length) :
    readAll (readBlock fuel) N st c ((Item.encList items ++ [breakByte]).take n) =
      ((ends c items vals).filter (fun x => decide (x.2 ≤ c + n)),
       if n = (Item.encList items ++ [breakByte]).length then none else some .end_) := by
  induction items generalizing vals N st c n with
  | nil =>
    cases vals with
    | cons _ _ => cases hden
    | nil =>
      obtain ⟨N, rfl⟩ : ∃ N', N = N' + 1 := ⟨N - 1, by omega⟩
      have hb : (readBlock fuel st).run [breakByte] = .ok ((none, { st with indef := false, count := st.read }), []) := by
        rw [readBlock_at_break fuel st hst]
        simp [endOfFile, hout]
      have h := readAll_cut hb N c [] n
      rw [List.append_nil] at h
      rw [Item.encList, List.nil_append] at hn ⊢
      rw [h]
      by_cases hlt : n < [breakByte].length
      · rw [if_pos hlt, if_neg (by omega)]
        rfl
      · rw [if_neg hlt, if_pos (by omega)]
        rfl
  | cons i is ih =>
    cases vals with
    | nil => cases hden
    | cons v vs =>
      obtain ⟨hwf, hd, hrest⟩ := hden
      obtain ⟨N, rfl⟩ : ∃ N', N = N' + 1 := ⟨N - 1, by omega⟩
      rw [Item.encList, List.append_assoc, List.length_append] at hn ⊢
      rw [readAll_cut (by simpa using readBlock_block fuel st hst i v hwf hd (hf i (by simp)) []), ends,
        filter_cut (ends_ge _ is vs) n]
      by_cases hlt : n < i.enc.length
      · rw [if_pos hlt, if_pos hlt, if_neg (by omega)]
      · rw [if_neg hlt, if_neg hlt, ih vs hrest (fun j hj => hf j (by simp [hj])) N (by simpa using hN)
          { st with read := st.read + 1 } hst hout (c + i.enc.length) (n - i.enc.length) (by omega)]
        simp only [show n - i.enc.length = (Item.encList is ++ [breakByte]).length ↔
            n = i.enc.length + (Item.encList is ++ [breakByte]).length by omega]

theorem denotes_toItems (blocks : List Val) (hb : ConformsList block blocks) : Denotes (toItems block blocks) blocks := by
  induction blocks with
  | nil => simp [toItems, Denotes]
  | cons v vs ih =>
    simp only [ConformsList] at hb
    simp only [toItems, Denotes]
    exact ⟨toItem_wf block v hb.1, denote_toItem block v hb.1, ih hb.2⟩

/-- **A file array of indefinite length is closed by its own break.**  When the block array ends (its break was read, or all
    announced blocks were), a reader whose file array is of indefinite length (`m_indef_file`) demands that array's break: input
    ending before it is end-of-input, not the regular end of the file – and with the break present the regular end is reported
    and nothing more is demanded afterwards.  (The reader used to stop at the block array's end; found by cutting another
    writer's layout `9f … ff` at every byte.) -/
theorem outer_break_demanded (fuel : Nat) (st : RdSt) (hst : st.indef = true) (hout : st.outer = true) :
    (readBlock fuel st).run [breakByte] = .error .end_ ∧
    (readBlock fuel st).run [breakByte, breakByte] = .ok ((none, { st with indef := false, count := st.read, outer := false }), []) := by
  constructor
  · rw [readBlock_at_break fuel st hst]
    simp [endOfFile, hout, readBreak, readCborType, Prog.run_bind]
  · rw [readBlock_at_break fuel st hst]
    simp only [endOfFile, hout, if_true]
    rw [Prog.run_bind_ok (readBreak_accepts [])]
    rfl

/-- the exporter's own outputs: the block array `blocks… ff` written by the struct writers, cut anywhere -/
theorem truncated_output (blocks : List Val) (hb : ConformsList block blocks) (fuel : Nat)
    (hf : ∀ i ∈ toItems block blocks, steps i + cfuel i ≤ fuel) (c n : Nat)
    (hn : n ≤ ((blocks.map (writeBytes block)).flatten ++ [breakByte]).length) :
    readAll (readBlock fuel) (blocks.length + 1) ⟨true, 0, 0, false⟩ c (((blocks.map (writeBytes block)).flatten ++ [breakByte]).take n) =
      ((ends c (toItems block blocks) blocks).filter (fun x => decide (x.2 ≤ c + n)),
       if n = ((blocks.map (writeBytes block)).flatten ++ [breakByte]).length then none else some .end_) := by
  rw [flatten_writeBytes] at hn ⊢
  exact truncated_blocks fuel (toItems block blocks) blocks (denotes_toItems blocks hb) hf (blocks.length + 1)
    (by rw [toItems_length]; omega) ⟨true, 0, 0, false⟩ rfl rfl c n hn

end CdnsVerif.Props.C05
