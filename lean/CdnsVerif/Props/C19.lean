/-
  C19 — blocks have value semantics: a copy is complete and independent of its source.
  Model: `Model.Table` (storage cells + KeyRef-style index).  A block is a record of nine such
  tables plus plain vectors; the vectors copy by value, so the property reduces to the tables.

  * `copy_canon`        the repaired copy (items copied, index rebuilt) of a table is a canonical
                        table in its own cell with the same items;
  * `copy_like_fresh`   it is exactly the table obtained by adding the same items to a fresh one;
  * `own_cell_only`     a table whose references are its own consults only its own storage cell:
                        `find`/`add`/`get` give the same results in any two heaps that agree on
                        that cell – so modifying, clearing or destroying the source afterwards
                        cannot change what the copy does (`copy_independent`), and operations
                        on the copy never touch the source's cell (`add_frames_others`);
  * `shallow_copy_dangles` the implicitly generated copy of the pinned tree (index copied
                        verbatim) is refuted by a concrete history: copy, destroy the source,
                        look up an existing value → dangling reference.
-/
import CdnsVerif.Props.C11

namespace CdnsVerif.Props.C19
open CdnsVerif.Model.Table CdnsVerif.Props.C11

variable {α : Type}

def OwnRefs (t : Table) : Prop := ∀ e ∈ t.index, e.1.owner = t.self

theorem ownRefs_of_canon (h : Heap α) (t : Table) (hc : Canon h t) : OwnRefs t := by
  obtain ⟨its, _, _, hidx⟩ := hc
  rw [OwnRefs, hidx]
  exact List.forall_mem_map.2 fun _ _ => rfl

variable [DecidableEq α]

theorem rebuild_entries (hash : Hash α) (h : Heap α) (c : Nat) (done todo : List α) (hc : h c = some (done ++ todo))
    (hnd : (done ++ todo).Nodup) :
    rebuild hash h { self := c, index := [] } done.length todo (entries c 0 done.length) =
      .ok (entries c 0 (done ++ todo).length) := by
  induction todo generalizing done with
  | nil => simp [rebuild]
  | cons v vs ih =>
    have habs : v ∉ done := not_mem_of_nodup_append_cons hnd
    rw [rebuild, upsert_entries_next hash h c done vs v hc habs]
    simpa using ih (done ++ [v]) (by simpa using hc) (by simpa using hnd)

/-- the repaired copy: same items, own cell, canonical index -/
theorem copy_canon (hash : Hash α) (h : Heap α) (src : Table) (hsrc : Canon h src) (c : Nat) :
    ∃ h' t', copy hash h src c = .ok (h', t') ∧ t'.self = c ∧ items h' t' = items h src ∧ Canon h' t' ∧
      h' = setCell h c (some (items h src)) := by
  have hc' : setCell h c (some (items h src)) c = some (items h src) := setCell_same _ _ _
  unfold copy
  simp only
  rw [show rebuild hash _ { self := c, index := [] } 0 (items h src) [] = _ from
    rebuild_entries hash _ c [] _ hc' (canon_nodup hsrc)]
  exact ⟨_, _, rfl, rfl, items_of_cell _ _ _ hc', ⟨_, hc', canon_nodup hsrc, rfl⟩, rfl⟩

theorem canon_unique (h : Heap α) (t₁ t₂ : Table) (h1 : Canon h t₁) (h2 : Canon h t₂) (hs : t₁.self = t₂.self) : t₁ = t₂ :=
  (canon_ext h h t₁ t₂ h1 h2 hs (by simp [items, hs])).1

/-- The copy behaves exactly like a freshly built table with that content: it IS the table
    obtained by adding the same items, in order, to a fresh table in the same cell. -/
theorem copy_like_fresh (hash : Hash α) (hok : HashOk hash) (h : Heap α) (src : Table) (hsrc : Canon h src) (c : Nat) :
    ∃ hc tc hf tf, copy hash h src c = .ok (hc, tc) ∧
      addAll hash (fresh h c).1 (fresh h c).2 (items h src) = .ok (hf, tf) ∧ tc = tf ∧ hc c = hf c := by
  -- both are canonical in cell `c`, and both hold the (duplicate-free) items of the source there
  obtain ⟨hc, tc, he, hself, hitems, hcan, _⟩ := copy_canon hash h src hsrc c
  obtain ⟨hf, tf, hef, hcanf, hfself, _, hnd⟩ := addAll_canon hash hok (items h src) _ _ (fresh_canon h c)
  have hfitems : items hf tf = items h src := by
    simpa [fresh, items, setCell] using hnd (by simpa [fresh, items, setCell] using canon_nodup hsrc)
  obtain ⟨et, ecell⟩ := canon_ext hc hf tc tf hcan hcanf (hself.trans hfself.symm) (hitems.trans hfitems.symm)
  exact ⟨hc, tc, hf, tf, he, hef, et, by rwa [show tf.self = c from hfself, hself] at ecell⟩

theorem findIn_agree (hash : Hash α) (h1 h2 : Heap α) (k : α) (self : Nat) (idx : List (Ref × Nat))
    (hown : ∀ e ∈ idx, e.1.owner = self) (hag : h1 self = h2 self) :
    findIn hash h1 k idx = findIn hash h2 k idx := by
  induction idx with
  | nil => rfl
  | cons e es ih =>
    obtain ⟨r, i⟩ := e
    obtain ⟨hr, hes⟩ := List.forall_mem_cons.1 hown
    unfold findIn
    rw [show deref h1 r = deref h2 r by simp [deref, show r.owner = self from hr, hag]]
    cases deref h2 r with
    | none => rfl
    | some v => simp only; rw [ih hes]

/-- `find` and `get` of a table with own references depend on its own storage cell only -/
theorem own_cell_only (hash : Hash α) (h1 h2 : Heap α) (t : Table) (hown : OwnRefs t) (hag : h1 t.self = h2 t.self) (k : α) (i : Nat) :
    find hash h1 t k = find hash h2 t k ∧ Model.Table.get h1 t i = Model.Table.get h2 t i := by
  refine ⟨findIn_agree hash h1 h2 k t.self t.index hown hag, ?_⟩
  simp [Model.Table.get, items, hag]

/-- Whatever happens to the source afterwards (modified, cleared, destroyed – any change of any
    other cell), lookups on the copy are unchanged. -/
theorem copy_independent (hash : Hash α) (h : Heap α) (src : Table) (hsrc : Canon h src) (c : Nat)
    (hc : Heap α) (tc : Table) (he : copy hash h src c = .ok (hc, tc)) (h2 : Heap α) (hag : h2 c = hc c) (k : α) (i : Nat) :
    find hash h2 tc k = find hash hc tc k ∧ Model.Table.get h2 tc i = Model.Table.get hc tc i := by
  obtain ⟨hc', tc', he', hself, _, hcan, _⟩ := copy_canon hash h src hsrc c
  rw [he] at he'; cases he'
  exact own_cell_only hash h2 hc tc (ownRefs_of_canon hc tc hcan) (hself ▸ hag) k i

theorem add_writes_own_cell (hash : Hash α) (h : Heap α) (t : Table) (v : α)
    (h' : Heap α) (t' : Table) (i : Nat) (he : add hash h t v = .ok (h', t', i)) (other : Nat) (hne : other ≠ t.self) :
    h' other = h other := by
  unfold add at he
  split at he
  · cases he
  · cases he; rfl
  · simp only [addValue] at he
    split at he
    · cases he; simp [setCell, hne]
    · cases he

/-- changes to the copy never affect the source: `add` on a canonical table writes its own cell only -/
theorem add_frames_others (hash : Hash α) (hok : HashOk hash) (h : Heap α) (t : Table) (hcan : Canon h t) (v : α)
    (h' : Heap α) (t' : Table) (i : Nat) (he : add hash h t v = .ok (h', t', i)) (other : Nat) (hne : other ≠ t.self) :
    h' other = h other :=
  add_writes_own_cell hash h t v h' t' i he other hne

def isDangling {β : Type} : Outcome β → Bool
  | .dangling => true
  | .ok _ => false

/-- the replayable history: build, shallow-copy, destroy the source, look up in the copy -/
def shallowScenario : Outcome (Option Nat) :=
  let hash : Hash Nat := { stored := fun _ v => v, probe := fun v => v }
  let h0 : Heap Nat := fun _ => none
  let (h1, src) := fresh h0 1
  match add hash h1 src 42 with
  | .ok (h2, src', _) =>
    let (h3, cp) := copyShallowIndex h2 src' 2
    find hash (destroy h3 src') cp 42
  | .dangling => .ok none

theorem shallow_copy_dangles : isDangling shallowScenario = true := by decide

/-- the same history with the repaired copy finds the value -/
def deepScenario : Outcome (Option Nat) :=
  let hash : Hash Nat := { stored := fun _ v => v, probe := fun v => v }
  let h0 : Heap Nat := fun _ => none
  let (h1, src) := fresh h0 1
  match add hash h1 src 42 with
  | .ok (h2, src', _) =>
    match copy hash h2 src' 2 with
    | .ok (h3, cp) => find hash (destroy h3 src') cp 42
    | .dangling => .dangling
  | .dangling => .dangling

theorem deep_copy_survives : isDangling deepScenario = false := by decide

end CdnsVerif.Props.C19
