/-
  C07 — the CBOR decoder accepts every well-formed encoding and skips exactly one item.

  All statements are about `Prog.run` over the remaining input; `Props.C05.runW_refines` lifts
  each of them to the real decoder state (65535-byte window over a `std::istream`), so they
  hold wherever the encoding lies relative to the buffer boundary.
  `Item`, `Item.enc`, `Item.WF` are the RFC 8949 syntax from `Spec.Cbor` (every head width,
  definite and indefinite containers, chunked strings, tags, simple values, floats).
-/
import CdnsVerif.Proofs.Skip
import CdnsVerif.Model.Schema

namespace CdnsVerif.Props.C07
open CdnsVerif.Spec.Cbor CdnsVerif.Model CdnsVerif.Model.Decoder

theorem readUnsigned_accepts (w : Width) (n : Nat) (h : w.fits n) (rest : Bytes) :
    readUnsigned.run ((Item.uint w n).enc ++ rest) = .ok (n, rest) := by
  unfold readUnsigned
  rw [Item.enc, run_head mUint w n h]
  have := ai_le_27 w n h
  have h28 : ¬ w.ai n ≥ 28 := by omega
  simp only [tUnsigned_eq, ne_eq, not_true_eq_false, if_false, h28]
  exact run_readInt w n h rest

private theorem run_readNegative (w : Width) (n : Nat) (h : w.fits n) (rest : Bytes) :
    readNegative.run ((Item.nint w n).enc ++ rest) =
      .ok (if n > int64Max then -(int64Max : Int) - 1 else -1 - (n : Int), rest) := by
  unfold readNegative
  rw [Item.enc, run_head mNint w n h]
  have := ai_le_27 w n h
  have h28 : ¬ w.ai n ≥ 28 := by omega
  simp only [tNegative_eq, ne_eq, not_true_eq_false, if_false, h28]
  rw [Prog.run_bind_ok (run_readInt w n h rest)]
  split
  · rfl
  · rfl

theorem readNegative_accepts (w : Width) (n : Nat) (h : w.fits n) (hn : n < 2 ^ 63) (rest : Bytes) :
    readNegative.run ((Item.nint w n).enc ++ rest) = .ok (-1 - (n : Int), rest) := by
  rw [run_readNegative w n h rest, if_neg (by unfold int64Max; omega)]

/-- outside `int64_t` the API cannot return the value; it saturates (never wraps) -/
theorem readNegative_saturates (w : Width) (n : Nat) (h : w.fits n) (hn : 2 ^ 63 ≤ n) (rest : Bytes) :
    readNegative.run ((Item.nint w n).enc ++ rest) = .ok (-(2 ^ 63 : Int), rest) := by
  rw [run_readNegative w n h rest, if_pos (by unfold int64Max; omega)]
  rfl

/-- `read_integer()` returns what `intOf` says of the item, for every width: outside `int64_t` it saturates -/
theorem readInteger_accepts (i : Item) (key : Int) (hk : Schema.intOf i = some key) (hwf : i.WF) (rest : Bytes) :
    readInteger.run (i.enc ++ rest) = .ok (key, rest) := by
  unfold readInteger
  cases i with
  | uint w n =>
    cases hk
    have h := readUnsigned_accepts w n hwf rest
    rw [Item.enc] at h ⊢
    rw [peek_head mUint w n hwf]
    simp only [tUnsigned_eq, if_true]
    rw [Prog.run_bind_ok h]
    split <;> rfl
  | nint w n =>
    cases hk
    have e1 : ¬ (mNint * 32 = tUnsigned) := by decide
    have e2 : mNint * 32 = tNegative := by decide
    rw [Item.enc, peek_head mNint w n hwf, if_neg e1, if_pos e2]
    exact run_readNegative w n hwf rest
  | _ => simp [Schema.intOf] at hk

theorem readBool_accepts (b : Bool) (rest : Bytes) :
    readBool.run ((Item.simple (if b then 21 else 20)).enc ++ rest) = .ok (b, rest) := by
  cases b <;> rfl

private theorem run_readStr_def (m : Nat) (w : Width) (bs : Bytes) (h : w.fits bs.length) (fuel : Nat) (rest : Bytes) :
    (readStr (m * 32) fuel).run (head m w bs.length ++ bs ++ rest) = .ok (bs, rest) := by
  unfold readStr
  rw [List.append_assoc, run_head m w bs.length h]
  have := ai_le_27 w bs.length h
  have h28 : ¬ (28 ≤ w.ai bs.length ∧ w.ai bs.length ≤ 30) := by omega
  simp only [ne_eq, not_true_eq_false, if_false, h28]
  rw [Prog.run_bind_ok (run_readInt w bs.length h (bs ++ rest))]
  rw [show (w.ai bs.length == 31) = false from beq_false_of_ne (by omega)]
  exact run_readString_def _ bs rest fuel

theorem readBytestring_accepts (w : Width) (bs : Bytes) (h : w.fits bs.length) (fuel : Nat) (rest : Bytes) :
    (readBytestring fuel).run ((Item.bstr w bs).enc ++ rest) = .ok (bs, rest) :=
  run_readStr_def mBstr w bs h fuel rest

theorem readTextstring_accepts (w : Width) (bs : Bytes) (h : w.fits bs.length) (fuel : Nat) (rest : Bytes) :
    (readTextstring fuel).run ((Item.tstr w bs).enc ++ rest) = .ok (bs, rest) :=
  run_readStr_def mTstr w bs h fuel rest

private theorem run_readStr_indef (m : Nat) (cs : List Chunk) (hcs : chunksWF cs)
    (fuel : Nat) (hf : cs.length + 1 ≤ fuel) (rest : Bytes) :
    (readStr (m * 32) fuel).run (indefHead m ++ encChunks m cs ++ [breakByte] ++ rest) = .ok (chunksVal cs, rest) := by
  unfold readStr
  rw [List.append_assoc, List.append_assoc, run_indefHead]
  simp only [ne_eq, not_true_eq_false, if_false, show ¬ (28 ≤ 31 ∧ 31 ≤ 30) by omega]
  exact run_readString_indef m cs hcs 0 fuel hf rest

/-- indefinite-length (chunked) byte strings are accepted; the value is the concatenation of
    the chunks -/
theorem readBytestring_accepts_chunked (cs : List Chunk) (hcs : chunksWF cs) (fuel : Nat)
    (hf : cs.length + 1 ≤ fuel) (rest : Bytes) :
    (readBytestring fuel).run ((Item.bstrI cs).enc ++ rest) = .ok (chunksVal cs, rest) :=
  run_readStr_indef mBstr cs hcs fuel hf rest

theorem readTextstring_accepts_chunked (cs : List Chunk) (hcs : chunksWF cs) (fuel : Nat)
    (hf : cs.length + 1 ≤ fuel) (rest : Bytes) :
    (readTextstring fuel).run ((Item.tstrI cs).enc ++ rest) = .ok (chunksVal cs, rest) :=
  run_readStr_indef mTstr cs hcs fuel hf rest

private theorem run_readStart_def (m : Nat) (w : Width) (n : Nat) (h : w.fits n) (tl rest : Bytes) :
    (readStart (m * 32)).run (head m w n ++ tl ++ rest) = .ok ((n, false), tl ++ rest) := by
  unfold readStart
  rw [List.append_assoc, run_head m w n h]
  have := ai_le_27 w n h
  have h28 : ¬ (28 ≤ w.ai n ∧ w.ai n ≤ 30) := by omega
  have h31 : ¬ (w.ai n = 31) := by omega
  simp only [ne_eq, not_true_eq_false, if_false, h28, h31]
  rw [Prog.run_bind_ok (run_readInt w n h _)]
  rfl

private theorem run_readStart_indef (m : Nat) (tl brk rest : Bytes) :
    (readStart (m * 32)).run (indefHead m ++ tl ++ brk ++ rest) = .ok ((0, true), tl ++ brk ++ rest) := by
  unfold readStart
  rw [List.append_assoc, List.append_assoc, run_indefHead]
  simp

theorem readArrayStart_accepts (w : Width) (items : List Item) (h : w.fits items.length) (rest : Bytes) :
    readArrayStart.run ((Item.arr w items).enc ++ rest) = .ok ((items.length, false), Item.encList items ++ rest) :=
  run_readStart_def mArr w _ h _ rest

theorem readArrayStart_accepts_indef (items : List Item) (rest : Bytes) :
    readArrayStart.run ((Item.arrI items).enc ++ rest) = .ok ((0, true), Item.encList items ++ [breakByte] ++ rest) :=
  run_readStart_indef mArr _ _ rest

theorem readMapStart_accepts (w : Width) (items : List Item) (h : w.fits (items.length / 2)) (rest : Bytes) :
    readMapStart.run ((Item.map w items).enc ++ rest) = .ok ((items.length / 2, false), Item.encList items ++ rest) :=
  run_readStart_def mMap w _ h _ rest

theorem readMapStart_accepts_indef (items : List Item) (rest : Bytes) :
    readMapStart.run ((Item.mapI items).enc ++ rest) = .ok ((0, true), Item.encList items ++ [breakByte] ++ rest) :=
  run_readStart_indef mMap _ _ rest

/-- Skipping consumes exactly one data item – of ANY well-formed shape: all major types,
    every head width, definite and indefinite containers at any nesting depth, chunked
    strings, tags together with their content, simple values and floats – so that the next
    read starts at the following item. -/
theorem skip_exact (i : Item) (hwf : i.WF) (fuel : Nat) (hf : steps i + 2 ≤ fuel) (hc : cfuel i ≤ fuel)
    (rest : Bytes) :
    (skipItem fuel).run (i.enc ++ rest) = .ok ((), rest) := by
  unfold skipItem
  -- `+ 2`: behind the item one iteration takes off the level `Level.one` the call starts with, one more finds no level left
  obtain ⟨f, hf'⟩ : ∃ f, fuel = steps i + (f + 2) := ⟨fuel - steps i - 2, by omega⟩
  have h := skipOK i hwf fuel (f + 2) Level.one [] rest (.inr Nat.one_ne_zero) hc
  rw [← hf'] at h
  rw [h, skipLoop_pop _ _ _ _ _ rfl rfl]
  rfl

/-- a fuel linear in the input length always suffices (what the driver and the C++ loop's
    termination argument use) -/
theorem skip_exact_linear (i : Item) (hwf : i.WF) (rest : Bytes) :
    (skipItem (3 * (i.enc ++ rest).length + 2)).run (i.enc ++ rest) = .ok ((), rest) := by
  apply skip_exact i hwf
  · have := steps_le i; simp only [List.length_append]; omega
  · have := cfuel_le i; simp only [List.length_append]; omega

/-- the sentinel reading of the property: after skipping `i`, the next read returns the
    following item's value -/
theorem skip_then_read (i : Item) (hwf : i.WF) (w : Width) (n : Nat) (h : w.fits n) (rest : Bytes) (fuel : Nat)
    (hf : steps i + 2 ≤ fuel) (hc : cfuel i ≤ fuel) :
    (skipItem fuel >>= fun _ => readUnsigned).run (i.enc ++ ((Item.uint w n).enc ++ rest)) = .ok (n, rest) := by
  rw [Prog.run_bind_ok (skip_exact i hwf fuel hf hc _)]
  exact readUnsigned_accepts w n h rest

/-! Non-vacuity: a nested, mixed definite/indefinite item with a tag and a chunked string is
    well-formed, and the theorems apply to it. -/
def sample : Item :=
  .arrI [.tag .w1 100 (.uint .imm 5), .map .imm [.nint .w2 300, .bstrI [(.imm, [1, 2]), (.w1, [3])]],
         .mapI [.simple 20, .f16 15360], .tstr .w4 [104, 105]]

theorem sample_wf : sample.WF := by
  simp [sample, Item.WF, Item.WFList, chunksWF, chunkWF, Width.fits, Width.bound, bytesOk]

example : (skipItem 100 >>= fun _ => readUnsigned).run (sample.enc ++ ((Item.uint .imm 7).enc ++ [])) = .ok (7, []) :=
  skip_then_read sample sample_wf .imm 7 (by decide) [] 100
    (by simp [sample, steps, stepsList]) (by simp [sample, cfuel, cfuelList])

end CdnsVerif.Props.C07
