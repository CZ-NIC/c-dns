/-
  C17 — timestamp offsets are exact, invertible and never negative within a block.

  Specification side: `inst t r = secs * r + ticks` in unbounded integers.  Model side:
  `Model.Timestamp` (fixed-width arithmetic of the C++ made explicit).
  The file is also the time arithmetic that Proofs/BuilderTime.lean and Proofs/ReadBlock.lean build on.  In order: the instant of a
  timestamp and the conversions between `uint64_t`, `int64_t` and instants; on a representable reference `add_time_offset` is exact
  addition of instants (`add_eq`), and the theorems about adding an offset are its corollaries; the comparisons (`lt_iff`); every
  operation on a block changes its time members in one of three ways (`stepTime_shape`), on which the invariant `TimeInv`
  (`step_inv`) and the theorems about whole blocks rest.
-/
import CdnsVerif.Model.Timestamp
import CdnsVerif.Proofs.Lists

namespace CdnsVerif.Props.C17
open CdnsVerif.Model.Timestamp

/-- the instant a timestamp denotes, in ticks since the epoch (unbounded) -/
def inst (t : Ts) (r : Nat) : Nat := t.secs * r + t.ticks

/-- representable range of the property: the instant fits `int64_t` -/
def InRange (t : Ts) (r : Nat) : Prop := inst t r < two63

theorem toI64_small (n : Nat) (h : n < two63) : toI64 n = (n : Int) := by
  unfold toI64; simp [h]

theorem ofI64_natCast (n : Nat) : ofI64 (n : Int) = u64 n := by
  unfold ofI64 u64
  rw [← Int.natCast_emod, Int.toNat_natCast]

theorem ofI64_nat (n : Nat) (h : n < two64) : ofI64 (n : Int) = n := by
  rw [ofI64_natCast, u64, Nat.mod_eq_of_lt h]

theorem toI64_range (n : Nat) (h : n < two64) : -(two63 : Int) ≤ toI64 n ∧ toI64 n < two63 := by
  unfold toI64 two63 two64 at *
  split <;> omega

/-- `int64_t → uint64_t → int64_t` is the identity -/
theorem toI64_ofI64 (d : Int) (hlo : -(two63 : Int) ≤ d) (hhi : d < two63) : toI64 (ofI64 d) = d := by
  unfold toI64 ofI64 two63 two64 at *
  by_cases h0 : 0 ≤ d
  · rw [Int.emod_eq_of_lt h0 (by omega), if_pos (by omega)]; omega
  · rw [← Int.add_emod_right, Int.emod_eq_of_lt (by omega) (by omega), if_neg (by omega)]; omega

theorem toI64_u64_sub (A B : Nat) (hA : A < two63) (hB : B < two63) : toI64 (u64 (A + two64 - B)) = (A : Int) - B := by
  -- as integers the argument is `A - B + 2^64`, and `ofI64` does not see the `2^64`
  have e : ((A + two64 - B : Nat) : Int) = (A : Int) - B + two64 := by unfold two63 two64 at *; omega
  rw [← ofI64_natCast, e, ofI64, Int.add_emod_right, ← ofI64, toI64_ofI64 _ (by omega) (by omega)]

theorem rawTicks_eq (t : Ts) (r : Nat) (h : InRange t r) : rawTicks t r = inst t r := by
  unfold InRange inst two63 at h
  unfold rawTicks u64 inst two64
  omega

def ofInst (n r : Nat) : Ts := ⟨n / r, n % r⟩

theorem ofInst_inst (t : Ts) (r : Nat) (hn : t.ticks < r) : ofInst (inst t r) r = t := by
  unfold ofInst inst
  rw [Nat.mul_comm, Nat.mul_add_div (by omega), Nat.mul_add_mod, Nat.div_eq_of_lt hn, Nat.mod_eq_of_lt hn]; rfl

theorem inst_ofInst (n r : Nat) : inst (ofInst n r) r = n := Nat.div_add_mod' n r

/-- The offset of one timestamp from another is the exact signed tick difference. -/
theorem offset_exact (a b : Ts) (r : Nat) (hr : 1 ≤ r) (ha : InRange a r) (hb : InRange b r) :
    getTimeOffset a b r = .ok ((inst a r : Int) - (inst b r : Int)) := by
  unfold getTimeOffset
  rw [if_neg (by omega), rawTicks_eq a r ha, rawTicks_eq b r hb, toI64_u64_sub _ _ ha hb]

/-- **`add_time_offset` on a representable reference is exact addition of instants**, for EVERY integer offset: it returns
    exactly when the sum is a representable instant, and then the normalised timestamp of the sum. -/
theorem add_eq (e : Ts) (off : Int) (r : Nat) (hr : 1 ≤ r) (he : InRange e r) :
    addTimeOffset e off r =
      if 0 ≤ (inst e r : Int) + off ∧ (inst e r : Int) + off < two63 then .ok (ofInst ((inst e r : Int) + off).toNat r) else .error .invalid := by
  have hE : inst e r < two63 := he
  unfold addTimeOffset
  rw [if_neg (by omega), rawTicks_eq e r he, toI64_small _ he]
  by_cases g1 : off < 0 ∧ (off = -(two63 : Int) ∨ -off > (inst e r : Int))
  · rw [if_pos g1, if_neg (by omega)]
  · rw [if_neg g1]
    by_cases g2 : off > 0 ∧ (inst e r : Int) > (two63 : Int) - 1 - off
    · rw [if_pos g2, if_neg (by omega)]
    · rw [if_neg g2, if_pos (by omega)]
      obtain ⟨N, hN⟩ := Int.eq_ofNat_of_zero_le (show 0 ≤ (inst e r : Int) + off by omega)
      simp only [hN, ofI64_nat N (by unfold two63 two64 at *; omega), Int.toNat_natCast]; rfl

/-- Adding the offset back to the reference reproduces the original instant in normalised form. -/
theorem add_inverse (a b : Ts) (r : Nat) (hr : 1 ≤ r) (ha : InRange a r) (hb : InRange b r)
    (hn : a.ticks < r) :
    addTimeOffset b ((inst a r : Int) - (inst b r : Int)) r = .ok a := by
  have hA : inst a r < two63 := ha
  rw [add_eq b _ r hr hb, if_pos (by omega), show (inst b r : Int) + ((inst a r : Int) - inst b r) = (inst a r : Int) by omega,
    Int.toNat_natCast, ofInst_inst a r hn]

/-- An offset that would move before the epoch is refused – for EVERY `int64_t` offset,
    INT64_MIN included – and the refusal leaves the timestamp unchanged (the model returns
    `.error` without a new timestamp; the C++ throws before assigning). -/
theorem add_refuses (b : Ts) (r : Nat) (off : Int) (hr : 1 ≤ r) (hb : InRange b r)
    (hlo : -(two63 : Int) ≤ off) (hneg : (inst b r : Int) + off < 0) :
    addTimeOffset b off r = .error .invalid := by
  rw [add_eq b off r hr hb, if_neg (by omega)]

/-- whatever `add_time_offset` returns on an in-range reference is itself in range and normalised -/
theorem add_result_normal (e : Ts) (off : Int) (r : Nat) (hr : 1 ≤ r) (he : InRange e r) (t : Ts)
    (h : addTimeOffset e off r = .ok t) : InRange t r ∧ t.ticks < r := by
  rw [add_eq e off r hr he] at h
  split at h
  · cases h
    exact ⟨by unfold InRange; rw [inst_ofInst]; omega, Nat.mod_lt _ (by omega)⟩
  · cases h

/-- the offset the writer computes (`get_time_offset`, stored as `uint64_t`) and the reader adds back (as `int64_t`) recovers every
    representable normalised time from every representable reference – whichever of the two is earlier -/
theorem add_offset_back (t e : Ts) (r : Nat) (hr : 1 ≤ r) (ht : InRange t r) (he : InRange e r) (htn : t.ticks < r) :
    ∃ d : Int, getTimeOffset t e r = .ok d ∧ addTimeOffset e (toI64 (ofI64 d)) r = .ok t := by
  have hT : inst t r < two63 := ht
  have hE : inst e r < two63 := he
  refine ⟨_, offset_exact t e r hr ht he, ?_⟩
  rw [toI64_ofI64 _ (by omega) (by omega)]
  exact add_inverse t e r hr ht he htn

/-- … hence the offset the writer computes for it from the same reference, added back by the reader, gives the same time:
    `add_time_offset(get_time_offset(t, e), e) = t` for every `t` that `add_time_offset` produced from `e` (negative offsets
    included) -/
theorem reoffset_recovers (e : Ts) (off : Int) (r : Nat) (hr : 1 ≤ r) (he : InRange e r) (t : Ts)
    (h : addTimeOffset e off r = .ok t) :
    ∃ d : Int, getTimeOffset t e r = .ok d ∧ addTimeOffset e (toI64 (ofI64 d)) r = .ok t :=
  have ⟨htr, htn⟩ := add_result_normal e off r hr he t h
  add_offset_back t e r hr htr he htn

/-- Any operation at tick rate 0 is refused. -/
theorem rate_zero (a b : Ts) (off : Int) :
    getTimeOffset a b 0 = .error .rateZero ∧ addTimeOffset b off 0 = .error .rateZero := by
  simp [getTimeOffset, addTimeOffset]

/-- The signed addition `ticks += offset` the code performs is always inside `int64_t`
    (for every timestamp, every `int64_t` offset, every rate) – no undefined arithmetic. -/
theorem addTimeOffset_no_overflow (t : Ts) (off : Int) (r : Nat) (hlo : -(two63 : Int) ≤ off)
    (hhi : off < (two63 : Int)) (t' : Ts) (h : addTimeOffset t off r = .ok t') :
    -(two63 : Int) ≤ toI64 (rawTicks t r) + off ∧ toI64 (rawTicks t r) + off < (two63 : Int) := by
  have hb := toI64_range (rawTicks t r) (Nat.mod_lt _ (by decide))
  unfold addTimeOffset at h
  split at h
  · cases h
  · simp only at h
    split at h
    · cases h
    · split at h
      · cases h
      · unfold two63 at *; omega

theorem lt_def (a b : Ts) : lt a b = true ↔ a.secs < b.secs ∨ a.secs = b.secs ∧ a.ticks < b.ticks := by
  simp only [lt, Bool.or_eq_true, decide_eq_true_eq, Bool.and_eq_true, beq_iff_eq]

theorem le_def (a b : Ts) : le a b = true ↔ a.secs < b.secs ∨ a.secs = b.secs ∧ a.ticks ≤ b.ticks := by
  simp only [le, Bool.or_eq_true, decide_eq_true_eq, Bool.and_eq_true, beq_iff_eq]

/-- Comparison operators order normalised timestamps by instant. -/
theorem lt_iff (a b : Ts) (r : Nat) (ha : a.ticks < r) (hb : b.ticks < r) :
    lt a b = true ↔ inst a r < inst b r := by
  -- a whole second outweighs any normalised ticks
  have key : ∀ {s s' : Nat}, s < s' → s * r + r ≤ s' * r := fun h => Nat.succ_mul _ _ ▸ Nat.mul_le_mul_right r h
  rw [lt_def]; unfold inst
  rcases Nat.lt_trichotomy a.secs b.secs with h | h | h
  · have := key h; omega
  · rw [h]; omega
  · have := key h; omega

theorem le_eq_not_lt (a b : Ts) : le a b = !lt b a := by
  rw [Bool.eq_iff_iff, Bool.not_eq_true', ← Bool.not_eq_true, le_def, lt_def]; omega

theorem le_iff (a b : Ts) (r : Nat) (ha : a.ticks < r) (hb : b.ticks < r) :
    le a b = true ↔ inst a r ≤ inst b r := by
  rw [le_eq_not_lt, Bool.not_eq_true', ← Bool.not_eq_true, lt_iff b a r hb ha, Nat.not_lt]

theorem lt_irrefl (t : Ts) : lt t t = false := by rw [← Bool.not_eq_true, lt_def]; omega

theorem not_lt_of_lt (s t e : Ts) (h1 : lt s e = false) (h2 : lt t e = true) : lt s t = false := by
  rw [← Bool.not_eq_true, lt_def] at *; omega

def opTs : TimeOp → Option Ts
  | .qr ts _ _ => ts
  | .mm ts _ _ => ts
  | .qrItem ts _ => ts
  | .mmItem ts _ => ts
  | .clear => none

theorem mem_times_push (b : BlockTime) (e : Ts) (x : Option Ts) (t : Ts) :
    (t ∈ ({ b with earliest := e, qrs := b.qrs ++ [x] } : BlockTime).times ∨ t ∈ ({ b with earliest := e, mms := b.mms ++ [x] } : BlockTime).times) →
      t ∈ b.times ∨ x = some t := by
  simp only [BlockTime.times, List.filterMap_append, List.mem_append, List.mem_filterMap, id, List.mem_singleton, exists_eq_right]
  rintro (((h | h) | h) | (h | (h | h)))
  · exact .inl (.inl h)
  · exact .inr h.symm
  · exact .inl (.inr h)
  · exact .inl (.inl h)
  · exact .inl (.inr h)
  · exact .inr h.symm

/-- **What one operation does to the time members**: it empties the block, or leaves it alone, or moves the earliest time by
    `updEarliest` with the operation's time and stores at most that time. -/
theorem stepTime_shape (b : BlockTime) (op : TimeOp) :
    stepTime b op = BlockTime.init ∨ stepTime b op = b ∨
    ((stepTime b op).earliest = updEarliest b (opTs op) ∧ ∀ t ∈ (stepTime b op).times, t ∈ b.times ∨ opTs op = some t) := by
  cases op with
  | clear => exact .inl rfl
  | qr ts timeHint other =>
    refine .inr (.inr ?_)
    unfold stepTime
    dsimp only [opTs]
    -- `split` would take the inner `if` first
    by_cases hc : ((if timeHint = true then ts else none).isSome || other) = true
    · rw [if_pos hc]
      refine ⟨rfl, fun t ht => ?_⟩
      rcases mem_times_push b _ _ t (.inl ht) with h | h
      · exact .inl h
      · cases timeHint
        · cases h
        · exact .inr h
    · rw [if_neg hc]; exact ⟨rfl, fun t ht => .inl ht⟩
  | mm ts enabled other =>
    simp only [stepTime, opTs]
    split
    · exact .inr (.inl rfl)
    · refine .inr (.inr ?_)
      split
      · exact ⟨rfl, fun t ht => mem_times_push b _ _ t (.inr ht)⟩
      · exact ⟨rfl, fun t ht => .inl ht⟩
  | qrItem ts other =>
    simp only [stepTime, opTs]
    split
    · exact .inr (.inr ⟨rfl, fun t ht => mem_times_push b _ _ t (.inl ht)⟩)
    · exact .inr (.inl rfl)
  | mmItem ts other =>
    simp only [stepTime, opTs]
    split
    · exact .inr (.inr ⟨rfl, fun t ht => mem_times_push b _ _ t (.inr ht)⟩)
    · exact .inr (.inl rfl)

/-- invariant: no stored record time is earlier than the block's earliest time -/
def TimeInv (b : BlockTime) : Prop := ∀ t ∈ b.times, lt t b.earliest = false

theorem upd_inv (b : BlockTime) (hb : TimeInv b) (ts : Option Ts) (t : Ts) (ht : t ∈ b.times ∨ ts = some t) :
    lt t (updEarliest b ts) = false := by
  unfold updEarliest
  cases ts with
  | none => exact hb t (ht.resolve_right (by simp))
  | some u =>
    simp only [Option.some.injEq] at ht ⊢
    split
    · next hc =>
      rcases ht with ht | rfl
      · rcases Bool.or_eq_true _ _ ▸ hc with he | hl
        · simp only [Bool.and_eq_true, List.isEmpty_iff] at he
          simp [BlockTime.times, he.1, he.2] at ht
        · exact not_lt_of_lt t u b.earliest (hb t ht) hl
      · exact lt_irrefl _
    · next hc =>
      rcases ht with ht | rfl
      · exact hb t ht
      · simp only [Bool.or_eq_true, not_or, Bool.not_eq_true] at hc; exact hc.2

theorem step_inv (b : BlockTime) (hb : TimeInv b) (op : TimeOp) : TimeInv (stepTime b op) := by
  rcases stepTime_shape b op with h | h | ⟨he, ht⟩
  · rw [h]; exact List.forall_mem_nil _
  · rw [h]; exact hb
  · intro t hm; rw [he]; exact upd_inv b hb _ t (ht t hm)

/-- In every block the library builds (any arrival order of timed and untimed records, any
    hint settings, any number of clears) no stored record time is earlier than the block's
    earliest time. -/
theorem earliest_le (ops : List TimeOp) :
    ∀ t ∈ (runTime BlockTime.init ops).times, lt t (runTime BlockTime.init ops).earliest = false :=
  foldl_inv stepTime (fun _ b => TimeInv b) ops BlockTime.init (List.forall_mem_nil _) fun _ op b _ hb => step_inv b hb op

/-- Consequently every stored offset is non-negative and adding it back to the block's
    earliest time recovers the record time exactly. -/
theorem offsets_nonneg_and_recovered (t e : Ts) (r : Nat) (hr : 1 ≤ r) (ht : InRange t r) (he : InRange e r)
    (htn : t.ticks < r) (hen : e.ticks < r) (hle : lt t e = false) :
    ∃ off : Int, 0 ≤ off ∧ getTimeOffset t e r = .ok off ∧ addTimeOffset e off r = .ok t := by
  refine ⟨(inst t r : Int) - (inst e r : Int), ?_, offset_exact t e r hr ht he, add_inverse t e r hr ht he htn⟩
  have : ¬ inst t r < inst e r := fun h => by rw [(lt_iff t e r htn hen).2 h] at hle; cases hle
  omega

/-! Non-vacuity: concrete values meet the hypotheses; the INT64_MIN offset is refused. -/
example : InRange ⟨1636068056, 971687⟩ 1000000 ∧ (971687 : Nat) < 1000000 := by
  unfold InRange inst two63; simp
example : addTimeOffset ⟨5, 7⟩ (-(two63 : Int)) 1000 = .error .invalid := by
  simp [addTimeOffset, two63]
example : (runTime BlockTime.init [.qr none true true, .qr (some ⟨9, 1⟩) true false, .mm (some ⟨3, 0⟩) true false]).times
    = [⟨9, 1⟩, ⟨3, 0⟩] := by decide

end CdnsVerif.Props.C17
