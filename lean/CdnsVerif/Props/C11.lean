/-
  C11 — block tables de-duplicate, keep indices stable and stay referentially closed.
  Model: `Model.Table` (BlockTable/KeyRef with explicit storage).  All theorems are for an
  arbitrary element type with decidable equality, an arbitrary heap, and any hash satisfying
  `HashOk` (equal values hash equally wherever they are stored).
  C19 builds on the lemmas about `Canon` here (`canon_nodup`, `canon_ext`, `upsert_entries_next`, `addAll_canon`).
-/
import CdnsVerif.Model.Table
import CdnsVerif.Proofs.Lists

namespace CdnsVerif.Props.C11
open CdnsVerif.Model.Table

variable {α : Type}

/-- the index of a table that was only ever filled through `add`: entry j refers to own element j -/
def entries (self a n : Nat) : List (Ref × Nat) := (List.range' a n).map fun j => ((⟨self, j⟩ : Ref), j)

/-- canonical state of an add-only table: own storage, no two equal elements, index = identity -/
def Canon (h : Heap α) (t : Table) : Prop :=
  ∃ its, h t.self = some its ∧ its.Nodup ∧ t.index = entries t.self 0 its.length

theorem items_of_cell (h : Heap α) (t : Table) (its : List α) (hc : h t.self = some its) : items h t = its := by
  simp [items, hc]

theorem canon_nodup {h : Heap α} {t : Table} (hc : Canon h t) : (items h t).Nodup := by
  obtain ⟨its, hcell, hnd, _⟩ := hc
  rwa [items_of_cell h t its hcell]

theorem canon_ext (h₁ h₂ : Heap α) (t₁ t₂ : Table) (c1 : Canon h₁ t₁) (c2 : Canon h₂ t₂) (hs : t₁.self = t₂.self)
    (hi : items h₁ t₁ = items h₂ t₂) : t₁ = t₂ ∧ h₁ t₁.self = h₂ t₂.self := by
  obtain ⟨i1, e1, _, x1⟩ := c1
  obtain ⟨i2, e2, _, x2⟩ := c2
  rw [items_of_cell h₁ t₁ i1 e1, items_of_cell h₂ t₂ i2 e2] at hi
  subst hi
  cases t₁; cases t₂
  simp only at hs x1 x2
  subst hs
  simp [x1, x2, e1, e2]

theorem setCell_same (h : Heap α) (c : Nat) (v : Option (List α)) : setCell h c v c = v := by simp [setCell]

theorem fresh_canon (h : Heap α) (c : Nat) : Canon (fresh h c).1 (fresh h c).2 :=
  ⟨[], setCell_same h c _, List.nodup_nil, rfl⟩

variable [DecidableEq α]

theorem entries_cons (self a n : Nat) : entries self a (n + 1) = ((⟨self, a⟩ : Ref), a) :: entries self (a + 1) n := by
  simp [entries, List.range'_succ]

/-- The cell holds `pre ++ rest ++ post`; the entries of the window `rest` are searched (the induction moves its head to `pre`; `post`: what
    the cell holds beyond the indexed part, as in `upsert_entries_next`).  `hok`: equal keys must hash equally for `k` to be found; where it is not there, the hash does not matter. -/
theorem findIn_entries (hash : Hash α) (h : Heap α) (self : Nat) (pre rest post : List α)
    (hc : h self = some (pre ++ rest ++ post)) (k : α) (hok : k ∈ rest → HashOk hash) :
    findIn hash h k (entries self pre.length rest.length) = .ok ((rest.idxOf? k).map (· + pre.length)) := by
  induction rest generalizing pre with
  | nil => rfl
  | cons v vs ih =>
    have hd : deref h ⟨self, pre.length⟩ = some v := by simp [deref, hc]
    rw [List.length_cons, entries_cons, findIn, hd, List.idxOf?_cons]
    by_cases hv : v = k
    · simp [hv, hok (by simp [hv]) _ _]
    · simpa [hv, Option.map_map, Function.comp_def, Nat.add_comm, Nat.add_left_comm] using
        ih (pre ++ [v]) (by simpa using hc) fun hm => hok (List.mem_cons_of_mem _ hm)

theorem find_entries (hash : Hash α) (hok : HashOk hash) (h : Heap α) (t : Table) (its : List α)
    (hc : h t.self = some its) (hidx : t.index = entries t.self 0 its.length) (k : α) :
    find hash h t k = .ok (its.idxOf? k) := by
  rw [find, hidx]; simpa using findIn_entries hash h t.self [] its [] (by simpa using hc) k fun _ => hok

theorem upsert_of_findIn_none (hash : Hash α) (h : Heap α) (k : α) (r : Ref) (i : Nat) (idx : List (Ref × Nat))
    (hf : findIn hash h k idx = .ok none) : upsert hash h k r i idx = .ok (idx ++ [(r, i)]) := by
  induction idx with
  | nil => rfl
  | cons e es ih =>
    obtain ⟨r', i'⟩ := e
    unfold findIn at hf
    unfold upsert
    split at hf
    · cases hf
    · split at hf
      · cases hf
      · next hne => simp only [hne, if_false, ih hf, List.cons_append]

theorem entries_succ (self n : Nat) : entries self 0 (n + 1) = entries self 0 n ++ [((⟨self, n⟩ : Ref), n)] := by
  simp [entries, List.range'_concat]

theorem upsert_entries_next (hash : Hash α) (h : Heap α) (self : Nat) (rest post : List α) (v : α)
    (hc : h self = some (rest ++ v :: post)) (habs : v ∉ rest) :
    upsert hash h v ⟨self, rest.length⟩ rest.length (entries self 0 rest.length) = .ok (entries self 0 (rest.length + 1)) := by
  rw [entries_succ]
  exact upsert_of_findIn_none hash h v _ _ _
    ((findIn_entries hash h self [] rest (v :: post) (by simpa using hc) v fun hm => absurd hm habs).trans
      (by rw [List.idxOf?_eq_none_iff.2 habs]; rfl))

/-- `add` on a canonical table, completely: it succeeds (no dangling access), the table stays canonical in its cell, `i` is where `v` now
    is, nothing changes if `v` was there, and `v` is appended if not.  All that is proved below of `add` and `addAll` comes from this. -/
theorem add_spec (hash : Hash α) (hok : HashOk hash) (h : Heap α) (t : Table) (hcan : Canon h t) (v : α) :
    ∃ h' t' i, add hash h t v = .ok (h', t', i) ∧ Canon h' t' ∧ t'.self = t.self ∧
      (items h' t')[i]? = some v ∧
      (v ∈ items h t → h' = h ∧ t' = t) ∧
      (v ∉ items h t → items h' t' = items h t ++ [v] ∧ i = (items h t).length) := by
  obtain ⟨its, hc, hnd, hidx⟩ := hcan
  have hit := items_of_cell h t its hc
  unfold add
  rw [find_entries hash hok h t its hc hidx v]
  cases hs : its.idxOf? v with
  | some i =>
    obtain ⟨hi, hv, _⟩ := List.idxOf?_eq_some_iff.1 hs
    have hin : v ∈ its := hv ▸ List.getElem_mem hi
    simp only
    exact ⟨h, t, i, rfl, ⟨its, hc, hnd, hidx⟩, rfl, by rw [hit]; simp [hi, hv], fun _ => ⟨rfl, rfl⟩,
      fun hn => absurd hin (hit ▸ hn)⟩
  | none =>
    have hnotin : v ∉ its := List.idxOf?_eq_none_iff.1 hs
    simp only
    unfold addValue
    rw [hit]
    dsimp only
    have hc' : setCell h t.self (some (its ++ [v])) t.self = some (its ++ [v]) := setCell_same _ _ _
    rw [hidx, upsert_entries_next hash _ t.self its [] v hc' hnotin]
    simp only
    refine ⟨_, _, _, rfl, ⟨its ++ [v], hc', ?_, ?_⟩, rfl, ?_, ?_, ?_⟩
    · exact nodup_concat hnd hnotin
    · simp
    · simp [items, hc']
    · intro hin; exact absurd hin hnotin
    · intro _; simp [items, hc']

/-- Adding a value returns the index of an entry equal to that value. -/
theorem add_returns_equal (hash : Hash α) (hok : HashOk hash) (h : Heap α) (t : Table) (hcan : Canon h t) (v : α) :
    ∃ h' t' i, add hash h t v = .ok (h', t', i) ∧ Model.Table.get h' t' i = some v := by
  obtain ⟨h', t', i, he, _, _, hg, _⟩ := add_spec hash hok h t hcan v
  exact ⟨h', t', i, he, hg⟩

/-- Adding an equal value again returns the same index and does not grow the table. -/
theorem add_idempotent (hash : Hash α) (hok : HashOk hash) (h : Heap α) (t : Table) (hcan : Canon h t) (v : α)
    (h1 : Heap α) (t1 : Table) (i : Nat) (he : add hash h t v = .ok (h1, t1, i)) :
    add hash h1 t1 v = .ok (h1, t1, i) := by
  -- the first `add` leaves a canonical table holding `v` at `i`; the second finds it, and `Nodup` makes the position unique
  obtain ⟨h', t', i', he', hcan', _, hg, _, _⟩ := add_spec hash hok h t hcan v
  rw [he] at he'
  cases he'
  obtain ⟨h2, t2, j, he2, _, _, hg2, hin, _⟩ := add_spec hash hok h1 t1 hcan' v
  obtain ⟨rfl, rfl⟩ := hin (List.mem_of_getElem? hg)
  have hi := (List.getElem?_eq_some_iff.1 hg).1
  rw [he2, (List.getElem?_inj hi (canon_nodup hcan')).1 (hg.trans hg2.symm)]

def addAll (hash : Hash α) (h : Heap α) (t : Table) : List α → Outcome (Heap α × Table)
  | [] => .ok (h, t)
  | v :: vs =>
    match add hash h t v with
    | .ok (h', t', _) => addAll hash h' t' vs
    | .dangling => .dangling

theorem addAll_canon (hash : Hash α) (hok : HashOk hash) (vs : List α) :
    ∀ (h : Heap α) (t : Table), Canon h t →
      ∃ h' t', addAll hash h t vs = .ok (h', t') ∧ Canon h' t' ∧ t'.self = t.self ∧
        items h t <+: items h' t' ∧ ((items h t ++ vs).Nodup → items h' t' = items h t ++ vs) := by
  induction vs with
  | nil => intro h t hc; exact ⟨h, t, rfl, hc, rfl, List.prefix_rfl, fun _ => by simp⟩
  | cons v vs ih =>
    intro h t hc
    obtain ⟨h1, t1, i, he, hc1, hs1, _, hin, hout⟩ := add_spec hash hok h t hc v
    obtain ⟨h2, t2, he2, hc2, hs2, hpre, hnd⟩ := ih h1 t1 hc1
    refine ⟨h2, t2, by simp only [addAll, he]; exact he2, hc2, hs2.trans hs1, ?_, fun hn => ?_⟩
    · by_cases hv : v ∈ items h t
      · obtain ⟨rfl, rfl⟩ := hin hv; exact hpre
      · rw [(hout hv).1] at hpre; exact (List.prefix_append _ _).trans hpre
    · have hv : v ∉ items h t := not_mem_of_nodup_append_cons hn
      rw [hnd (by rw [(hout hv).1]; simpa using hn), (hout hv).1]; simp

/-- No table ever contains two equal entries, for every sequence of `add`s on a fresh table. -/
theorem no_duplicates (hash : Hash α) (hok : HashOk hash) (h : Heap α) (c : Nat) (vs : List α) :
    ∃ h' t', addAll hash (fresh h c).1 (fresh h c).2 vs = .ok (h', t') ∧ (items h' t').Nodup := by
  obtain ⟨h', t', he, hc, _⟩ := addAll_canon hash hok vs _ _ (fresh_canon h c)
  exact ⟨h', t', he, canon_nodup hc⟩

/-- distinct values always get distinct indices -/
theorem distinct_distinct (h : Heap α) (t : Table) (i j : Nat) (x y : α) (hx : Model.Table.get h t i = some x) (hy : Model.Table.get h t j = some y)
    (hne : x ≠ y) : i ≠ j := by
  intro e; subst e; rw [hx] at hy; cases hy; exact hne rfl

/-- indices stay valid and keep denoting the same value while values are added -/
theorem stable (hash : Hash α) (hok : HashOk hash) (h : Heap α) (t : Table) (hcan : Canon h t) (vs : List α)
    (i : Nat) (x : α) (hx : Model.Table.get h t i = some x) :
    ∃ h' t', addAll hash h t vs = .ok (h', t') ∧ Model.Table.get h' t' i = some x := by
  obtain ⟨h', t', he, _, _, ⟨ext, hext⟩, _⟩ := addAll_canon hash hok vs h t hcan
  refine ⟨h', t', he, ?_⟩
  unfold Model.Table.get at *
  rw [← hext]
  have hi : i < (items h t).length := (List.getElem?_eq_some_iff.1 hx).1
  rw [List.getElem?_append_left hi]; exact hx

/-- after `clear()` nothing of the previous content is visible -/
theorem clear_empty (h : Heap α) (t : Table) :
    items (clear h t).1 (clear h t).2 = [] ∧ (clear h t).2.index = [] ∧ Canon (clear h t).1 (clear h t).2 :=
  -- `clear h t` is `fresh h t.self`
  ⟨by simp [clear, items, setCell], rfl, fresh_canon h t.self⟩

/-! ### equal keys hash equally: which members each hash reads

  The nine key types and the bytes their `hash_value` feeds to CRC32 (src/block.h, hash.h).
  `==` compares all members (AddressEventCount additionally `ae_count`, which the hash does
  not read – harmless: equal ⇒ equal hash is what `unordered_map` needs). -/

structure QRS where
  m : List (Option Nat)        -- the 17 optional members in declaration order
  deriving DecidableEq
structure MMD where
  sai : Option Nat
  sport : Option Nat
  tf : Option Nat
  payload : Option (List Nat)
  deriving DecidableEq
structure AEC where
  aeType : Nat
  aeCode : Option Nat
  addr : Nat
  tf : Option Nat
  count : Nat
  deriving DecidableEq

/-- members fed to the hash, in order, absent ones skipped (the seed passes through) -/
def hashInputQRS (k : QRS) : List Nat := k.m.filterMap id
def hashInputMMD (k : MMD) : List (List Nat) :=
  [k.sai.toList, k.sport.toList, k.tf.toList, (k.payload.getD [])] ++ [if k.payload.isSome then [1] else []]
def hashInputAEC (k : AEC) : List Nat := [k.aeType] ++ k.aeCode.toList ++ [k.addr] ++ k.tf.toList

theorem hashInput_congr_QRS (a b : QRS) (h : a = b) : hashInputQRS a = hashInputQRS b := by rw [h]
theorem hashInput_congr_MMD (a b : MMD) (h : a = b) : hashInputMMD a = hashInputMMD b := by rw [h]
theorem hashInput_congr_AEC (a b : AEC) (h : a = b) : hashInputAEC a = hashInputAEC b := by rw [h]

/-- a hash that reads only the value (through any function of the members above) satisfies `HashOk` -/
theorem hashOk_of_value_hash (f : α → Nat) : HashOk ({ stored := fun _ v => f v, probe := f } : Hash α) := by
  intro r v; rfl

/-- … whereas a hash that reads where the element is stored (the pinned tree hashed the
    `std::string` object of the payload, i.e. its heap pointer) does not -/
example : ¬ HashOk ({ stored := fun r (_ : Nat) => r.pos, probe := fun _ => 0 } : Hash Nat) := by
  intro h; have := h ⟨0, 1⟩ 5; simp at this

example : ∃ h' t', addAll ({ stored := fun _ v => v % 3, probe := fun v => v % 3 } : Hash Nat)
    (fresh (fun _ => none : Heap Nat) 7).1 (fresh (fun _ => none : Heap Nat) 7).2 [5, 8, 5, 2, 8] = .ok (h', t') ∧ items h' t' = [5, 8, 2] := by
  refine ⟨_, _, rfl, ?_⟩
  decide

end CdnsVerif.Props.C11
