/-
  C03 — reading untrusted bytes is memory-safe, bounded and fails only by exception.

  Per-layer theorems (the composed statement is their conjunction; that every memory access of
  the C++ is one of the modelled kinds is established by the sanitizer-instrumented
  correspondence, not proved – the property is claimed as a partial proof):

  * window: every byte the decoder reads lies inside the fetched window – `read_to_buffer`
    never returns with an empty window (`window_nonempty`), and the decoder's view of the input
    is exactly the remaining input (`C05.runW_refines`): no stale or out-of-buffer byte;
  * allocation: the reservation made for an announced length is at most one decoder buffer,
    whatever the length field says (`reserve_bounded`);
  * arithmetic: `add_time_offset` performs its signed addition only inside `int64_t`
    (`C17.addTimeOffset_no_overflow`), `read_integer`/`read_negative` saturate (`C07`);
  * recursion: `skip_item` keeps its nesting levels in a heap vector; the model's loop is
    iterative and a fuel linear in the input suffices (`C07.skip_exact_linear`);
  * renderers: every index `get_readable_dname` reads is ≤ size (the terminator) and every
    index it writes is < size (`dname_in_bounds`), for EVERY byte string;
  * termination in linear time, for EVERY byte string (not only well-formed ones): the loops of the reader – `read_array`,
    the member loop of every struct reader, the chunk loop of `read_string`, the level loop of `skip_item` – are modelled
    with a fuel argument, and on ANY input a fuel linear in its length is never exhausted (`value_reader_fuel_never_binds`,
    `skip_fuel_never_binds`, `file_reader_fuel_never_binds`, `block_reader_fuel_never_binds`): above `2·|input| + 2` the result
    does not depend on the fuel.  Every loop iteration consumes a byte of input or closes a nesting level that a consumed
    byte opened, so the iterations of all modelled loops together are bounded by a linear function of the input length, and
    every exception the model reports on a hostile input is a genuine one, not an artefact of the fuel;
  * memory proportional to the input, for EVERY byte string: whatever the length fields of a hostile input announce, the value
    the reader materialises – one unit per scalar, string byte, list element and record member – plus the input left over is
    at most the input (`value_size_bounded_by_input`, `file_values_bounded_by_input`): a string of n bytes was paid for with n
    input bytes, a list of n elements with at least n.
-/
import CdnsVerif.Proofs.StructsSource
import CdnsVerif.Model.Render
import CdnsVerif.Props.C05
import CdnsVerif.Props.C07
import CdnsVerif.Props.C17
import CdnsVerif.Proofs.Fuel
import CdnsVerif.Proofs.Alloc
import CdnsVerif.Model.File

namespace CdnsVerif.Props.C03
open CdnsVerif.Model.Render CdnsVerif.Spec.Cbor

theorem reserve_bounded (announced : Nat) : reserveFor announced ≤ Generated.decBufferSize ∧ reserveFor announced ≤ announced := by
  unfold reserveFor
  split
  · exact ⟨by omega, Nat.le_refl _⟩
  · exact ⟨Nat.le_refl _, by omega⟩

/-- the window is never empty when a byte is taken from it -/
theorem window_nonempty (s : Model.Window.DecSt) (hs : C05.Inv s) (s' : Model.Window.DecSt)
    (h : Model.Window.readToBuffer s = .ok s') : s'.win ≠ [] := by
  have := C05.readToBuffer_spec s hs
  rw [h] at this
  exact this.2.1

def InBounds (name : Bytes) (a : Access) : Prop := a.idx ≤ name.length ∧ (a.write = true → a.idx < name.length)

theorem at_eq_zero_of_ge (name : Bytes) (pos : Nat) (h : name.length ≤ pos) : at_ name pos = 0 := by
  unfold at_; rw [List.getElem?_eq_none h]; rfl

theorem walk_in_bounds (name : Bytes) (fuel labelLen pos size : Nat) (acc : List Access)
    (hacc : ∀ a ∈ acc, InBounds name a) : ∀ a ∈ walk name fuel labelLen pos size acc, InBounds name a := by
  fun_induction walk name fuel labelLen pos size acc with
  | case1 | case2 | case3 | case4 => exact hacc
  | case5 fuel labelLen pos size acc h0 size' h1 h2 l acc1 acc2 ih =>
    apply ih
    have hpos : pos ≤ name.length := Nat.le_of_not_gt h2
    have hacc1 : ∀ a ∈ acc1, InBounds name a := List.forall_mem_append.2 ⟨hacc, List.forall_mem_singleton.2 ⟨hpos, nofun⟩⟩
    show ∀ a ∈ (if l ≠ 0 then acc1 ++ [⟨pos, true⟩] else acc1), InBounds name a
    split
    · rename_i hl
      -- a non-zero byte was read at `pos`, so `pos` is a real index (the terminator reads 0)
      exact List.forall_mem_append.2 ⟨hacc1, List.forall_mem_singleton.2
        ⟨hpos, fun _ => Nat.lt_of_not_le fun hge => hl (at_eq_zero_of_ge name pos hge)⟩⟩
    · exact hacc1

/-- Every access of the domain-name renderer is inside the string, for every input. -/
theorem dname_in_bounds (name : Bytes) : ∀ a ∈ dnameAccesses name, InBounds name a := by
  unfold dnameAccesses
  split
  · nofun
  · exact walk_in_bounds _ _ _ _ _ _ (List.forall_mem_singleton.2 ⟨Nat.zero_le _, nofun⟩)

/-- the witness of the repaired defect: a 20-byte name whose first label claims 20 bytes -/
example : ∀ a ∈ dnameAccesses (20 :: List.replicate 19 65), InBounds (20 :: List.replicate 19 65) a :=
  dname_in_bounds _

open CdnsVerif.Model CdnsVerif.Model.Decoder CdnsVerif.Model.Schema CdnsVerif.Proofs.Fuel

/-- **Any value of any schema, any bytes.**  Reading a value of kind `k` (any struct of the preamble or block tree, arrays, strings,
    integers) from an ARBITRARY byte string gives the same outcome – value and rest, or the same exception – for every fuel above
    `2·|bs| + 2`: none of the loops involved can run more often than that on this input. -/
theorem value_reader_fuel_never_binds (k : Kind) (bs : Bytes) (f1 f2 : Nat) (h1 : 2 * bs.length + 2 ≤ f1) (h2 : 2 * bs.length + 2 ≤ f2) :
    (readVal f1 k).run bs = (readVal f2 k).run bs :=
  eq_of_succ (P := fun f => (readVal f k).run bs) (fun f => (readers_succ f).1 k bs) h1 h2

/-- **`skip_item()` on any bytes**: at most `3·|bs| + 2` iterations of its level loop (a head byte opens at most two levels). -/
theorem skip_fuel_never_binds (bs : Bytes) (f1 f2 : Nat) (h1 : 3 * bs.length + 1 < f1) (h2 : 3 * bs.length + 1 < f2) :
    (skipItem f1).run bs = (skipItem f2).run bs := skipItem_adequate f1 f2 bs h1 h2

open CdnsVerif.Model.File in
/-- **A whole file, any bytes**: header, type string, preamble and all blocks. -/
theorem file_reader_fuel_never_binds (bs : Bytes) (f1 f2 : Nat) (h1 : 2 * bs.length + 2 ≤ f1) (h2 : 2 * bs.length + 2 ≤ f2) :
    (readFile f1).run bs = (readFile f2).run bs := by
  refine eq_of_succ (P := fun f => (readFile f).run bs) (fun f hf => ?_) h1 h2
  refine run_bind_congr _ _ _ _ fun ⟨len, indef⟩ r1 hs => Prog.run_ite_congr (fun _ => rfl) fun _ => ?_
  have hr1 := Prog.run_le hs
  refine Prog.run_bind_congr2 _ _ _ _ _ (readStr_succ _ f r1 (by omega)) fun t r2 ht =>
    Prog.run_ite_congr (fun _ => rfl) fun _ => ?_
  have hr2 := Prog.run_le ht
  refine Prog.run_bind_congr2 _ _ _ _ _ ((readers_succ f).1 _ r2 (by omega)) fun pv r3 hp => ?_
  have hr3 := Prog.run_le hp
  exact Prog.run_bind_congr_left _ _ _ _ ((readers_succ f).1 _ r3 (by omega))

open CdnsVerif.Model.File in
/-- **`CdnsReader::read_block()`, any bytes, any reader state.** -/
theorem block_reader_fuel_never_binds (st : RdSt) (bs : Bytes) (f1 f2 : Nat) (h1 : 2 * bs.length + 2 ≤ f1) (h2 : 2 * bs.length + 2 ≤ f2) :
    (readBlock f1 st).run bs = (readBlock f2 st).run bs := by
  refine Prog.run_ite_congr (fun _ => run_bind_congr _ _ _ _ fun t r0 hp => Prog.run_ite_congr (fun _ => rfl) fun _ => ?_)
    fun _ => Prog.run_ite_congr (fun _ => rfl) fun _ =>
      Prog.run_bind_congr_left _ _ _ _ (value_reader_fuel_never_binds _ bs f1 f2 h1 h2)
  have hr0 := Prog.run_le hp
  exact Prog.run_bind_congr_left _ _ _ _ (value_reader_fuel_never_binds _ r0 f1 f2 (by omega) (by omega))

/-- not vacuous, and the bound is about hostile input too: a definite-length array announcing 2^64−1 elements and an
    indefinite-length one nested 3 deep that never closes both end with the end-of-input exception at the bound (not with a
    fuel artefact, which would be `Err.decoder`) -/
def endsWithEnd {α : Type} : Except Err α → Bool
  | .error .end_ => true
  | _ => false
example : endsWithEnd ((readVal (2 * 10 + 2) (.arr (.uint 8))).run [0x9b, 255, 255, 255, 255, 255, 255, 255, 255, 1]) = true := by decide
example : endsWithEnd ((readVal (2 * 4 + 2) (.arr (.arr (.arr (.uint 8))))).run [0x9f, 0x9f, 0x9f, 7]) = true := by decide

open CdnsVerif.Proofs.Alloc in
/-- **Any schema without a repeated key, any bytes, any fuel**: the size of the value read plus the bytes left over is at most the
    size of the input. -/
theorem value_size_bounded_by_input (k : Kind) (hk : kindOk k = true) (f : Nat) (bs r : Bytes) (v : Val)
    (h : (readVal f k).run bs = .ok (v, r)) : vsize v + r.length ≤ bs.length :=
  (readers_pay f).1 k hk bs v r h

open CdnsVerif.Proofs.Alloc CdnsVerif.Model.Structs in
/-- the hypothesis holds for the two trees of the file: no struct of the preamble or block tree lists a key twice, at any depth -/
theorem file_schemas_ok : kindOk filePreamble = true ∧ kindOk (.arr block) = true := by decide +kernel

open CdnsVerif.Proofs.Alloc CdnsVerif.Model.File in
/-- **A whole file, any bytes**: preamble and block values together never exceed the input. -/
theorem file_values_bounded_by_input (f : Nat) (bs r : Bytes) (pv bv : Val) (h : (readFile f).run bs = .ok ((pv, bv), r)) :
    vsize pv + vsize bv + r.length ≤ bs.length := by
  have hp : Prog.Pays (readFile f) fun x => vsize x.1 + vsize x.2 :=
    .bind (.free _) fun ⟨len, indef⟩ => .ite .throw (.bind (.free _) fun t => .ite .throw
      (.bind ((readers_pay f).1 _ file_schemas_ok.1) fun pv' => .bind ((readers_pay f).1 _ file_schemas_ok.2) fun bv' =>
        .ite (.bind (.free _) fun _ => .pure (by dsimp only; omega)) (.pure (by dsimp only; omega))))
  exact hp bs (pv, bv) r h

end CdnsVerif.Props.C03
