/-
  C20 — independent exporter/reader instances are safe to use from concurrent threads.

  (1) `schedule_independent`: a program whose threads each own their state and share only
      read-only data produces, under EVERY interleaving of the threads' steps, exactly the
      per-thread outputs of the sequential runs (induction over the schedule).
  (2) The library IS such a program, as far as static storage goes – generated obligations over
      the inventory the translator (T2) rebuilds from the working tree's objects on every run:
      `no_shared_mutable` (every writable static-storage symbol is const-qualified, thread-local
      or C++ runtime data) and `no_nonreentrant_call` (no imported C function with hidden static
      state).  A `static` scratch buffer or cache added anywhere shows up as a new `mutable`
      symbol and breaks (2).
  Partial: objects reached through pointers handed in by the application are outside the
  inventory (the property excludes sharing them); libstdc++, zlib, liblzma are trusted to be
  thread-safe for distinct objects; data races are searched for with ThreadSanitizer.
-/
import CdnsVerif.Generated.Globals
import CdnsVerif.Proofs.Lists

namespace CdnsVerif.Props.C20
open CdnsVerif.Generated

def sharedOk (cls : String) : Bool := cls == "constQualified" || cls == "threadLocal" || cls == "runtime"

/-- libc functions that keep hidden static state (not safe to call from several threads) -/
def nonReentrant : List String :=
  ["strtok", "localtime", "gmtime", "asctime", "ctime", "rand", "srand", "strerror", "readdir", "getpwnam", "getpwuid",
   "getgrnam", "getgrgid", "inet_ntoa", "gethostbyname", "gethostbyaddr", "getservbyname", "getprotobyname", "tmpnam",
   "ttyname", "setlocale", "getenv", "putenv", "setenv", "ecvt", "fcvt", "gcvt", "drand48", "lrand48", "mrand48", "getlogin",
   "basename", "dirname", "crypt", "ptsname", "wcstombs", "mblen", "mbtowc", "wctomb"]

theorem no_shared_mutable : (writableSymbols.all fun s => sharedOk s.2) = true := by decide +kernel

theorem no_nonreentrant_call : (importedSymbols.all fun f => !nonReentrant.contains f) = true := by decide +kernel

variable {C σ ι ο : Type}

/-- one thread: reads the shared constants, updates ITS state, emits an output -/
abbrev Step (C σ ι ο : Type) := C → σ → ι → σ × ο

def runSeq (f : Step C σ ι ο) (c : C) (s : σ) : List ι → σ × List ο
  | [] => (s, [])
  | x :: xs =>
    let (s1, o) := f c s x
    let (s2, os) := runSeq f c s1 xs
    (s2, o :: os)

structure World (σ ι ο : Type) where
  st : Nat → σ                  -- private state of thread i
  pending : Nat → List ι        -- inputs thread i has not processed yet
  out : Nat → List ο            -- outputs of thread i so far

/-- the scheduler lets thread `i` take one step (nothing happens if it has finished) -/
def stepThread (f : Nat → Step C σ ι ο) (c : C) (w : World σ ι ο) (i : Nat) : World σ ι ο :=
  match w.pending i with
  | [] => w
  | x :: xs =>
    let (s', o) := f i c (w.st i) x
    { st := fun j => if j = i then s' else w.st j,
      pending := fun j => if j = i then xs else w.pending j,
      out := fun j => if j = i then w.out i ++ [o] else w.out j }

def runSched (f : Nat → Step C σ ι ο) (c : C) (w : World σ ι ο) (sched : List Nat) : World σ ι ο :=
  sched.foldl (stepThread f c) w

theorem runSeq_append (f : Step C σ ι ο) (c : C) (s : σ) (xs ys : List ι) :
    runSeq f c s (xs ++ ys) =
      let r1 := runSeq f c s xs
      let r2 := runSeq f c r1.1 ys
      (r2.1, r1.2 ++ r2.2) := by
  induction xs generalizing s with
  | nil => simp [runSeq]
  | cons x xs ih => simp only [List.cons_append, runSeq]; rw [ih]

/-- invariant: what thread i has done so far is the sequential run over the inputs it has consumed -/
def Agrees (f : Nat → Step C σ ι ο) (c : C) (s0 : Nat → σ) (inputs : Nat → List ι) (w : World σ ι ο) : Prop :=
  ∀ i, ∃ done, inputs i = done ++ w.pending i ∧ runSeq (f i) c (s0 i) done = (w.st i, w.out i)

theorem step_agrees (f : Nat → Step C σ ι ο) (c : C) (s0 : Nat → σ) (inputs : Nat → List ι) (w : World σ ι ο)
    (h : Agrees f c s0 inputs w) (k : Nat) : Agrees f c s0 inputs (stepThread f c w k) := by
  intro i
  unfold stepThread
  cases hp : w.pending k with
  | nil => simpa [hp] using h i
  | cons x xs =>
    simp only
    obtain ⟨done, hd, hr⟩ := h i
    by_cases hik : i = k
    · subst hik
      refine ⟨done ++ [x], ?_, ?_⟩
      · simp [hd, hp]
      · rw [runSeq_append, hr]
        simp [runSeq]
    · exact ⟨done, by simp [hik, hd], by simp [hik, hr]⟩

/-- Every schedule: each thread's outputs and state are those of its own sequential run over
    the inputs it has consumed; once it has consumed all of them, exactly the sequential result. -/
theorem schedule_independent (f : Nat → Step C σ ι ο) (c : C) (s0 : Nat → σ) (inputs : Nat → List ι) (sched : List Nat) :
    let w := runSched f c { st := s0, pending := inputs, out := fun _ => [] } sched
    ∀ i, w.pending i = [] → (w.st i, w.out i) = runSeq (f i) c (s0 i) (inputs i) := by
  intro w i hdone
  have hall : Agrees f c s0 inputs w := foldl_inv (stepThread f c) (fun _ => Agrees f c s0 inputs) sched _
    (fun j => ⟨[], by simp, rfl⟩) fun _ k w0 _ h => step_agrees f c s0 inputs w0 h k
  obtain ⟨done, hd, hr⟩ := hall i
  rw [hd, hdone, List.append_nil, hr]

/-! Non-vacuity: two counters with different increments, interleaved. -/
example : let f : Nat → Step Nat Nat Nat Nat := fun i c s x => (s + x + c + i, s)
    let w := runSched f 10 { st := fun _ => 0, pending := fun i => if i < 2 then [1, 2] else [], out := fun _ => [] } [0, 1, 1, 0]
    (w.out 0, w.out 1) = ((runSeq (f 0) 10 0 [1, 2]).2, (runSeq (f 1) 10 0 [1, 2]).2) := by decide

end CdnsVerif.Props.C20
