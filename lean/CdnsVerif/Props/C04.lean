/-
  C04 — storage hints are honoured.

  Proved here: the hint-mask bits of the code are those of RFC 8618, pairwise distinct
  (`hint_bits_match_rfc`, `hint_bits_are_distinct`): one bit governs one member, and it is the
  bit the RFC assigns; address events / malformed messages are stored only when enabled and a
  record of which nothing is stored does not change the block (`Model.Exporter`:
  `disabled_aec_not_stored`, `disabled_mm_not_stored`, `unstored_qr_not_stored`).
  Proved here over the block-building model `Model.Builder` (a transliteration of
  `add_question_response_record(GenericQueryResponse)`, `add_address_event_count`, `add_malformed_message`,
  `add_generic_qlist/rrlist` and the nine find-or-append table functions), for EVERY record sequence and
  EVERY hint masks:
  * `hints_honoured`         every member of every stored query/response, of every signature-table entry and
                             of every RR-table entry is present only if its hint bit is set; address events are
                             stored only when enabled; malformed messages and their data table only when enabled;
  * `output_members_honour_hints`  the same stated on the raw value that is written (keys of the Q/R map);
  * `tables_reachable`       every entry of every block table is referred to by a stored record or by another
                             table entry – a value is put into a table only on behalf of a member that is stored
                             (so the value of a field whose hint is cleared is in no table unless an enabled field
                             also refers to it);
  * `tables_closed`          every index stored anywhere addresses an existing table entry.
  The builder model is tied to the code byte for byte: the block it builds and the model writer serialises equals
  the block the library wrote for the same records and hints (driver `bld`; up to the order of the address-event
  array, which the library takes from a hash map).  The preamble stating exactly the applied hints is C09's round
  trip plus the in-place-edit sessions of the check.
-/
import CdnsVerif.Proofs.StructsSource
import CdnsVerif.Proofs.Keys
import CdnsVerif.Props.C12
import CdnsVerif.Proofs.Builder
import CdnsVerif.Proofs.BuilderReach
import CdnsVerif.Proofs.BuilderConforms
import CdnsVerif.Model.Resolve
import CdnsVerif.Generated.Hints

namespace CdnsVerif.Props.C04
open CdnsVerif.Proofs.Keys CdnsVerif.Model.Exporter

theorem hint_bits_match_rfc : keysAgree = true := generated_keys_eq_rfc
theorem hint_bits_are_distinct :
    (maskOk "QueryResponseHintsMask" && maskOk "QueryResponseSignatureHintsMask" && maskOk "RrHintsMask"
      && maskOk "OtherDataHintsMask") = true := hint_bits_distinct

variable (hdr : Nat → Nat) (bsz : Block → Nat)

/-- an address event buffered while address events are disabled leaves every array of the
    buffered block and every written block untouched -/
theorem disabled_aec_not_stored (s : ExpSt) (key : Nat) (st : Option Nat) (h : (pset s s.cur.pi).aecOn = false) :
    (step hdr bsz s (.aec key st)).1.cur.aecs = s.cur.aecs ∧ C12.blocksOf (step hdr bsz s (.aec key st)).1 = C12.blocksOf s := by
  simp [step, h, C12.blocksOf_def]

theorem disabled_mm_not_stored (s : ExpSt) (id : Nat) (stored : Bool) (st : Option Nat) (h : (pset s s.cur.pi).mmOn = false) :
    (step hdr bsz s (.mm id stored st)).1.cur.mms = s.cur.mms ∧ C12.blocksOf (step hdr bsz s (.mm id stored st)).1 = C12.blocksOf s := by
  simp [step, h, C12.blocksOf_def]

/-- a query/response of which nothing is stored never appears among the stored records -/
theorem unstored_qr_not_stored (s : ExpSt) (id : Nat) (st : Option Nat) :
    C12.allQrs (step hdr bsz s (.qr id false st)).1 = C12.allQrs s := by
  rw [C12.step_allQrs]; simp [C12.acceptedQr]

open CdnsVerif.Model.Builder CdnsVerif.Generated in
/-- Everything stored in a block built under hints `h` honours `h`. -/
theorem hints_honoured (h : Hints) (recs : List Rec) : Honours h (build h recs) := honours_build h recs

open CdnsVerif.Model.Builder in
/-- No table entry without a referrer: nothing is put into a table on behalf of a member that is not stored. -/
theorem tables_reachable (h : Hints) (recs : List Rec) : Reach (build h recs) := (inv_build h recs).2

open CdnsVerif.Model.Builder in
/-- Every stored index addresses an existing table entry. -/
theorem tables_closed (h : Hints) (recs : List Rec) : Closed (build h recs) := (inv_build h recs).1

open CdnsVerif.Model.Builder CdnsVerif.Generated in
/-- address events are not stored (and nothing is added to the address table for them) while their hint is off -/
theorem disabled_aec_untouched (h : Hints) (g : GAEC) (st : Option Stats) (b : Blk)
    (hoff : on h.odh OtherDataHintsMask.address_event_counts = false) : addAEC h g st b = setStats b st := addAEC_off h g st b hoff

open CdnsVerif.Model.Builder CdnsVerif.Generated in
theorem disabled_mm_untouched (h : Hints) (g : GMM) (st : Option Stats) (b : Blk)
    (hoff : on h.odh OtherDataHintsMask.malformed_messages = false) : addMM h g st b = setStats b st := addMM_off h g st b hoff

open CdnsVerif.Model.Builder CdnsVerif.Model.Schema CdnsVerif.Generated in
/-- the hint mask that governs a key of the Q/R map (keys 0–10; the extended members 11/12 are governed section by section; asn,
    country code and round-trip time, keys −1 … −3, are stored under no hint: "Fill implementation specific fields" in src/block.cpp) -/
def qrMask (k : Int) : Option Int :=
  if k = QueryResponseMapIndex.time_offset then some QueryResponseHintsMask.time_offset
  else if k = QueryResponseMapIndex.client_address_index then some QueryResponseHintsMask.client_address_index
  else if k = QueryResponseMapIndex.client_port then some QueryResponseHintsMask.client_port
  else if k = QueryResponseMapIndex.transaction_id then some QueryResponseHintsMask.transaction_id
  else if k = QueryResponseMapIndex.qr_signature_index then some QueryResponseHintsMask.qr_signature_index
  else if k = QueryResponseMapIndex.client_hoplimit then some QueryResponseHintsMask.client_hoplimit
  else if k = QueryResponseMapIndex.response_delay then some QueryResponseHintsMask.response_delay
  else if k = QueryResponseMapIndex.query_name_index then some QueryResponseHintsMask.query_name_index
  else if k = QueryResponseMapIndex.query_size then some QueryResponseHintsMask.query_size
  else if k = QueryResponseMapIndex.response_size then some QueryResponseHintsMask.response_size
  else if k = QueryResponseMapIndex.response_processing_data then some QueryResponseHintsMask.response_processing_data
  else none

open CdnsVerif.Model.Builder in
/-- one member of `QHonours` as `output_members_honour_hints` needs it: the slot's value is `o.map f`, its key `k` has the mask `M` -/
theorem governed {h : Hints} {k M : Int} {α β : Type} {f : α → β} {o : Option α} (hp : o.isSome → on h.qrh M = true)
    (e : qrMask k = some M := by decide) : (o.map f).isSome → ∀ m, qrMask k = some m → on h.qrh m = true := fun p m hm => by
  cases e.symm.trans hm
  cases o with
  | none => cases p
  | some x => exact hp rfl

open CdnsVerif.Model.Builder in
theorem ungoverned {h : Hints} {k : Int} {P : Prop} (e : qrMask k = none := by decide) :
    P → ∀ m, qrMask k = some m → on h.qrh m = true :=
  fun _ m hm => by cases e.symm.trans hm

open CdnsVerif.Model.Builder CdnsVerif.Model.Schema CdnsVerif.Model.Timestamp CdnsVerif.Generated in
/-- On the value that is written: a key of the Q/R map is present only if its hint bit is set. -/
theorem output_members_honour_hints (h : Hints) (q : QRec) (hq : QHonours h q) (earliest : Ts) (tps : Nat) (ms : List (Int × Val))
    (hv : QRec.toVal earliest tps q = .record ms) (k : Int) (v : Val) (hk : (k, v) ∈ ms) (m : Int) (hm : qrMask k = some m) :
    on h.qrh m = true := by
  have all : ∀ s ∈ qrSlots earliest tps q, s.val.isSome → ∀ m, qrMask s.field.key = some m → on h.qrh m = true := by
    obtain ⟨h0, h1, h2, h3, h4, h5, h6, h7, h8, h9, h10, _, _⟩ := hq
    simp only [qrSlots, List.forall_mem_cons, forall_mem_nil_iff, and_true, Slot.val, Slot.field, Field.key]
    exact ⟨governed fun hs => h0 (by cases hqt : q.ts <;> simp [hqt] at hs ⊢), governed h1, governed h2, governed h3, governed h4,
      governed h5, governed h6, governed h7, governed h8, governed h9, governed h10, ungoverned, ungoverned, ungoverned, ungoverned,
      ungoverned⟩
  -- (`subst ms` would carry the 16-slot literal through every hypothesis: rewrite the one membership instead)
  rw [← Val.record.inj ((qr_desc earliest tps q).val.symm.trans hv)] at hk
  obtain ⟨s, hs, rfl, hsv⟩ := mem_written.1 hk
  exact all s hs (by rw [hsv]; rfl) m hm

/-! Non-vacuity: with only the client-port hint set, a fully populated record stores the port and nothing else, and no
    table gets an entry; with the signature hints set, the signature and the tables it needs appear. -/
open CdnsVerif.Model.Builder in
def sampleG : GQR := {
  ts := some ⟨10, 5⟩
  clientIp := some [10, 0, 0, 1]
  clientPort := some 53
  serverIp := some [10, 0, 0, 2]
  classtype := some (1, 1)
  queryName := some [3, 119, 119, 119, 0]
  opcode := some 0
  queryAnswers := some [⟨[1, 97, 0], 1, 1, some 300, some [1, 2, 3, 4]⟩] }

open CdnsVerif.Model.Builder in
example : (build ⟨4, 0, 0, 0, 1000⟩ [.qr sampleG none]).qrs = [{ cport := some 53 }] ∧
    (build ⟨4, 0, 0, 0, 1000⟩ [.qr sampleG none]).ip = [] ∧ (build ⟨4, 0, 0, 0, 1000⟩ [.qr sampleG none]).nr = [] := by decide

open CdnsVerif.Model.Builder in
example : (build ⟨16 + 4096, 1 + 256, 1, 0, 1000⟩ [.qr sampleG none]).sig = [{ sai := some 0, cti := some 0 }] ∧
    (build ⟨16 + 4096, 1 + 256, 1, 0, 1000⟩ [.qr sampleG none]).rr = [{ name := 0, ct := 0, ttl := some 300, rdata := none }] := by decide

/-! ### the RFC reading of the hints against what the library does (translator T4)

  `Generated.hintProbes` is regenerated on every run: a query/response with EVERY member set, a malformed message and an
  address event go through the working tree's own exporter and reader under 197 hint configurations (all bits, none, every
  single bit cleared, every single bit alone, 120 pseudo-random masks); the table says which members came back.  `project` – the function the
  record-level theorems of C01 and the oracle of this property use for "what the hints let through" – must say the same. -/

open CdnsVerif.Model.Builder CdnsVerif.Model.Timestamp in
def probeRR (n : Nat) : GRR := { name := [n], type := 1, cls := 1, ttl := some 300, rdata := some [1, 2, 3, 4] }

open CdnsVerif.Model.Builder CdnsVerif.Model.Timestamp in
/-- the record of tools/t4_probe.cpp: every member present -/
def probeQR : GQR :=
  { ts := some ⟨100, 5⟩, clientIp := some [10, 0, 0, 1], clientPort := some 1234, transactionId := some 77,
    serverIp := some [10, 0, 0, 2], serverPort := some 53, transportFlags := some 1, qrType := some 1, sigFlags := some 3,
    opcode := some 0, dnsFlags := some 5, queryRcode := some 0, classtype := some (1, 1), qdcount := some 1, ancount := some 2,
    nscount := some 3, arcount := some 4, ednsVersion := some 0, udpSize := some 1232, optRdata := some [111, 112, 116],
    responseRcode := some 3, hoplimit := some 64, responseDelay := some (-5), queryName := some [3, 119, 119, 119, 0],
    querySize := some 40, responseSize := some 80, bailiwick := some [3, 99, 111, 109, 0], processingFlags := some 1,
    queryQuestions := some [probeRR 1], queryAnswers := some [probeRR 2], queryAuthority := some [probeRR 3],
    queryAdditional := some [probeRR 4], responseQuestions := some [probeRR 5], responseAnswers := some [probeRR 6],
    responseAuthority := some [probeRR 7], responseAdditional := some [probeRR 8],
    asn := some [65], countryCode := some [67, 90], roundTripTime := some 9 }

open CdnsVerif.Model.Builder CdnsVerif.Model.Timestamp in
/-- which members the RFC reading of the hints lets through, in the order of the probe's report -/
def probePresence (qrh sigh rrh odh : Nat) : List Bool :=
  let h : Hints := ⟨qrh, sigh, rrh, odh, 1⟩
  let p := project h probeQR
  let mm : GMM := { ts := some ⟨101, 0⟩, clientIp := some [10, 0, 0, 3], payload := some [106] }
  let ae : GAEC := ⟨0, none, none, [10, 0, 0, 4]⟩
  let firstAnswer := p.queryAnswers.bind (·.head?)
  [p.ts.isSome, p.clientIp.isSome, p.clientPort.isSome, p.transactionId.isSome, p.serverIp.isSome, p.serverPort.isSome,
   p.transportFlags.isSome, p.qrType.isSome, p.sigFlags.isSome, p.opcode.isSome, p.dnsFlags.isSome, p.queryRcode.isSome,
   p.classtype.isSome, p.qdcount.isSome, p.ancount.isSome, p.nscount.isSome, p.arcount.isSome, p.ednsVersion.isSome,
   p.udpSize.isSome, p.optRdata.isSome, p.responseRcode.isSome, p.hoplimit.isSome, p.responseDelay.isSome, p.queryName.isSome,
   p.querySize.isSome, p.responseSize.isSome, p.bailiwick.isSome, p.processingFlags.isSome, p.queryQuestions.isSome,
   p.queryAnswers.isSome, p.queryAuthority.isSome, p.queryAdditional.isSome, p.responseQuestions.isSome, p.responseAnswers.isSome,
   p.responseAuthority.isSome, p.responseAdditional.isSome, p.asn.isSome, p.countryCode.isSome, p.roundTripTime.isSome,
   (firstAnswer.bind (·.ttl)).isSome, (firstAnswer.bind (·.rdata)).isSome,
   !(expectedMms h [.mm mm none]).isEmpty, decide (timesBuffered h [.aec ae none] ae > 0)]

/-- the presence report as a number: bit i = the i-th entry -/
def bitsOf : List Bool → Nat
  | [] => 0
  | b :: rest => (if b then 1 else 0) + 2 * bitsOf rest

/-- **What the hints let through in the code is what the RFC reading says** – for every probed configuration (all bits, none,
    each bit cleared, each bit alone, per mask, 120 pseudo-random masks) the members the working tree's exporter + reader return for a full record are
    exactly those `project` keeps; malformed messages and address events come back exactly when their bit is set. -/
theorem hint_probes_match_projection :
    (Generated.hintProbes.all fun r => bitsOf (probePresence r.1 r.2.1 r.2.2.1 r.2.2.2.1) == r.2.2.2.2) = true := by
  decide +kernel

/-- the probe table is not trivial: it holds the all-set, the all-clear and a configuration per bit -/
theorem hint_probes_cover : 197 ≤ Generated.hintProbes.length := by decide +kernel

end CdnsVerif.Props.C04
