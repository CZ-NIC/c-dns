/-
  C16 — output failures are reported, never swallowed, and rotation recovers from them.

  Models: `Model.Writer.BW` (descriptor writer: one system call per write, `m_failed` flag) and
  `NW` below (named writer: `std::ofstream` with its own buffer, flushed at times the library
  does not control, sticky fail state checked after every write and at rotation).
  For every fault schedule (which call the OS rejects or cuts short) and every flush schedule:

  * `bw_failure_reported` / `nw_failure_reported`: if the OS did not receive every byte handed to
    the writer for an output, some `write` threw, or the `rotate_output` closing it threw;
  * `bw_reported_once`: after the exception further data is dropped without further exceptions;
  * `bw_recovery` / `nw_recovery`: `rotate_output` after a reported failure returns normally and
    yields a fresh writer, on which fault-free writes deliver exactly their data.
  Then `CW` and `EX`: the compressing writer and the exporter's block counter across a rotation that throws (defects D18, D17;
  `cw_write_after_rotation_is_not_dropped`, `ex_header_after_rotation`).
  The composition for an uncompressed output is proved last, over `Model.Stack` – exporter (buffered block,
  `m_blocks_written`) on encoder (staging buffer, `flush_buffer` anywhere) on the bottom writer, as ONE state machine, for
  every sequence of API calls, every fault schedule and every placement of the encoder's flushes:
  * `stack_failure_reported`: an output closed by a `rotate_output` lost no byte unless an API call threw while it was open
    (the closing call included) – `rotate_output` never returns normally for an output that silently lost bytes
    (`stack_open_output_complete`: the same for the output still open, the staging buffer counted in);
  * `stack_closed_output_is_complete_file`: …and what the OS holds of such an output is nothing at all or exactly header, the blocks
    written, break (`stack_closed_output_is_cdns_file`: that is `Model.File.fileBytes`), for good (`stack_closed_outputs_final`);
  * `stack_block_kept`: an exception out of `write_block()` / a flushing `buffer_*()` leaves the records buffered (the one
    just handed over included);
  * `stack_reported_once`: after the report, further `write_block()` / `buffer_*()` calls on that output return normally;
  * `stack_recovery`: after a reported failure `rotate_output(healthy, false)` returns normally with the records still
    buffered, `write_block()` then writes header and block, and the next rotation closes a complete output
    `header ++ block ++ break` with nothing thrown.
  Partial: the compressor between encoder and bottom writer only buffers and propagates; that part (and named outputs'
  `std::ofstream`) is modelled separately (`CW`, `NW`) and composed by the fault-injection correspondence, not proved.
-/
import CdnsVerif.Proofs.StructsSource  -- nothing below uses it: building this file thereby checks the schemas `Model.File` rests on against the source
import CdnsVerif.Model.Writer
import CdnsVerif.Proofs.Stack
import CdnsVerif.Proofs.StackShape
import CdnsVerif.Model.File

namespace CdnsVerif.Props.C16
open CdnsVerif.Model.Writer CdnsVerif.Spec.Cbor

def handed (calls : List (Bytes × Resp)) : Bytes := (calls.map (·.1)).flatten

/-- a write throws exactly when it makes a system call that the OS does not complete -/
theorem bw_write_throws_iff (w : BW) (c : Bytes) (r : Resp) :
    (w.write c r).2 = true ↔ (w.failed = false ∧ r ≠ .ok) := by
  unfold BW.write
  cases hf : w.failed <;> cases r <;> simp

theorem bw_write_ok (w : BW) (hw : w.failed = false) (c : Bytes) : w.write c .ok = ({ w with out := w.out ++ c }, false) := by
  simp [BW.write, hw]

/-- the equivalence, read from left to right, is "failures are reported", from right to left "fault-free writes are silent"; and such writes
    deliver their data -/
theorem bw_writes_healthy (w : BW) (hw : w.failed = false) (calls : List (Bytes × Resp)) :
    ((∀ t ∈ (w.writes calls).2, t = false) ↔ ∀ cr ∈ calls, cr.2 = .ok) ∧
    ((∀ cr ∈ calls, cr.2 = .ok) → (w.writes calls).1 = { w with out := w.out ++ handed calls }) := by
  induction calls generalizing w with
  | nil => simp [BW.writes, handed]
  | cons cr rest ih =>
    obtain ⟨c, r⟩ := cr
    simp only [BW.writes, List.forall_mem_cons]
    by_cases hr : r = .ok
    · subst hr
      obtain ⟨h1, h2⟩ := ih { w with out := w.out ++ c } hw
      rw [bw_write_ok w hw]
      exact ⟨and_congr (iff_of_true rfl rfl) h1, fun h => (h2 h.2).trans (by simp [handed])⟩
    · have ht : (w.write c r).2 = true := (bw_write_throws_iff w c r).2 ⟨hw, hr⟩
      simp [ht, hr]

/-- if no write threw, the OS has received every byte handed to the writer -/
theorem bw_failure_reported (w : BW) (hw : w.failed = false) (calls : List (Bytes × Resp)) :
    (∀ t ∈ (w.writes calls).2, t = false) → (w.writes calls).1.out = w.out ++ handed calls ∧ (w.writes calls).1.failed = false := by
  intro hno
  have h := bw_writes_healthy w hw calls
  rw [h.2 (h.1.1 hno)]
  exact ⟨rfl, hw⟩

/-- once the failure was reported (`failed`), nothing more is thrown and nothing more is written -/
theorem bw_reported_once (w : BW) (hw : w.failed = true) (calls : List (Bytes × Resp)) :
    (w.writes calls).1 = w ∧ ∀ t ∈ (w.writes calls).2, t = false := by
  induction calls with
  | nil => simp [BW.writes]
  | cons cr rest ih =>
    obtain ⟨c, r⟩ := cr
    have hst : w.write c r = (w, false) := if_pos hw
    simp only [BW.writes, hst, List.forall_mem_cons]
    exact ⟨ih.1, trivial, ih.2⟩

/-- rotation always yields a fresh, healthy writer; fault-free writes on it deliver exactly their data -/
theorem bw_recovery (w : BW) (calls : List (Bytes × Resp)) (hok : ∀ cr ∈ calls, cr.2 = .ok) :
    ((w.rotate).2.writes calls).1.out = handed calls ∧ ∀ t ∈ ((w.rotate).2.writes calls).2, t = false := by
  have h := bw_writes_healthy (w.rotate).2 rfl calls
  exact ⟨by rw [h.2 hok]; rfl, h.1.2 hok⟩

/-! Non-vacuity: a schedule where the second write is rejected – it is the call that throws,
    and the third is dropped silently. -/
example : (({ out := [], failed := false } : BW).writes [([1, 2], .ok), ([3], .fail), ([4], .ok)]).2 = [false, true, false] := by decide
example : (({ out := [], failed := false } : BW).writes [([1, 2], .ok), ([3], .fail), ([4], .ok)]).1.out = [1, 2] := by decide

structure NW where
  os : Bytes         -- bytes the OS accepted for '<name>.part'
  buf : Bytes        -- bytes still in the stream buffer
  bad : Bool         -- the stream's sticky fail state
  failed : Bool      -- m_failed
  deriving Repr

/-- the stream tries to hand its buffer to the OS -/
def NW.flush (w : NW) (r : Resp) : NW :=
  if w.bad ∨ w.buf = [] then w
  else match r with
    | .ok => { w with os := w.os ++ w.buf, buf := [] }
    | .short => { w with os := w.os ++ w.buf.take (w.buf.length / 2), buf := [], bad := true }
    | .fail => { w with buf := [], bad := true }

/-- `Writer<std::string>::write`; `flushNow` = the stream decides to flush during this call -/
def NW.write (w : NW) (chunk : Bytes) (flushNow : Bool) (r : Resp) : NW × Bool :=
  if w.failed then (w, false)
  else
    let w1 := if w.bad then w else { w with buf := w.buf ++ chunk }
    let w2 := if flushNow then w1.flush r else w1
    if w2.bad then ({ w2 with failed := true }, true) else (w2, false)

def NW.writes (w : NW) : List (Bytes × Bool × Resp) → NW × List Bool
  | [] => (w, [])
  | (c, f, r) :: rest =>
    let (w1, t) := w.write c f r
    let (w2, ts) := NW.writes w1 rest
    (w2, t :: ts)

/-- `rotate_output`: final flush + close; returns (content of the closed file, threw, fresh writer).  It throws iff the file is incomplete
    and no write has reported that: `if (!complete && !reported) throw`, `reported` being `m_failed` on entry (src/writer.h) -/
def NW.rotate (w : NW) (r : Resp) : Bytes × Bool × NW :=
  let w1 := w.flush r
  let complete := !w1.bad
  (w1.os, !complete && !w.failed, { os := [], buf := [], bad := false, failed := false })

def nhanded (calls : List (Bytes × Bool × Resp)) : Bytes := (calls.map (·.1)).flatten

/-- while no failure has been reported the stream is good and OS + buffer hold exactly what was handed over -/
def NWInv (w : NW) (given : Bytes) : Prop := w.failed = false → w.bad = false ∧ w.os ++ w.buf = given

theorem nw_flush_good (w : NW) (r : Resp) (h : (w.flush r).bad = false) :
    w.flush r = { w with os := w.os ++ w.buf, buf := [] } := by
  obtain ⟨os, buf, bad, failed⟩ := w
  by_cases hw : bad = true ∨ buf = []
  · rcases hw with hw | hw
    · simp [NW.flush, hw] at h
    · simp [NW.flush, hw]
  · cases r <;> simp [NW.flush, hw] at h ⊢

theorem nw_write_step (w : NW) (g c : Bytes) (f : Bool) (r : Resp) (h : NWInv w g) :
    NWInv (w.write c f r).1 (g ++ c) ∧ ((w.write c f r).2 = false → (w.write c f r).1.failed = w.failed) := by
  obtain ⟨os, buf, bad, failed⟩ := w
  cases failed
  · obtain ⟨rfl, rfl⟩ := h rfl
    cases f
    · simp [NW.write, NWInv]
    · cases hbad : (NW.flush ⟨os, buf ++ c, false, false⟩ r).bad
      · simp [NW.write, NWInv, nw_flush_good _ r hbad]
      · simp [NW.write, NWInv, hbad]
  · simp [NW.write, NWInv]

theorem nw_writes_inv (w : NW) (g : Bytes) (calls : List (Bytes × Bool × Resp)) (h : NWInv w g) :
    NWInv (w.writes calls).1 (g ++ nhanded calls) ∧
    ((∀ t ∈ (w.writes calls).2, t = false) → (w.writes calls).1.failed = w.failed) := by
  induction calls generalizing w g with
  | nil => simp [NW.writes, nhanded]; exact h
  | cons cfr rest ih =>
    obtain ⟨c, f, r⟩ := cfr
    have h1 := nw_write_step w g c f r h
    have h2 := ih (w.write c f r).1 (g ++ c) h1.1
    simp only [NW.writes, List.forall_mem_cons]
    exact ⟨by simpa [nhanded, List.append_assoc] using h2.1, fun hno => (h2.2 hno.2).trans (h1.2 hno.1)⟩

/-- Named output: if neither a write nor the closing `rotate_output` threw, the closed file
    holds every byte handed to the writer – for every flush schedule and fault schedule. -/
theorem nw_failure_reported (calls : List (Bytes × Bool × Resp)) (r : Resp) :
    let w0 : NW := { os := [], buf := [], bad := false, failed := false }
    (∀ t ∈ (w0.writes calls).2, t = false) → ((w0.writes calls).1.rotate r).2.1 = false →
      ((w0.writes calls).1.rotate r).1 = nhanded calls := by
  intro w0 hno hrot
  have h := nw_writes_inv w0 [] calls fun _ => ⟨rfl, rfl⟩
  have hf : (w0.writes calls).1.failed = false := h.2 hno
  obtain ⟨-, hg⟩ := h.1 hf
  generalize (w0.writes calls).1 = w at *
  have hgood : (w.flush r).bad = false := by simpa [NW.rotate, hf] using hrot
  simpa [NW.rotate, nw_flush_good w r hgood] using hg

/-- rotation hands back a fresh writer whatever happened before, and after a REPORTED failure it
    does not throw again -/
theorem nw_recovery (w : NW) (r : Resp) :
    (w.rotate r).2.2 = { os := [], buf := [], bad := false, failed := false } ∧
    (w.failed = true → (w.rotate r).2.1 = false) := by
  refine ⟨rfl, fun h => ?_⟩
  simp [NW.rotate, h]

/-! ### the layers above the bottom writer across a rotation that throws (defects D17, D18)

The file writer opens the new file *before* it reports that the old one could not be completed (`nw_recovery`: the writer it
hands back is fresh).  The two layers above must leave themselves in a state that fits the new, healthy output although an
exception passes through them. -/

/-- what the layer below did when asked to rotate -/
inductive Below where
  | switched            -- new output open, returned normally
  | switchedAndThrew    -- new output open, then the failure of the old one was reported
  | refused             -- threw, no usable output (destination cannot be opened)
  deriving DecidableEq, Repr

/-- `GzipCborOutputWriter` / `XzCborOutputWriter`: `live` = the compressor state exists, `start` = `m_start_stream` -/
structure CW where
  live : Bool
  start : Bool
  deriving DecidableEq, Repr

/-- `rotate_output`: `finish()` (may fail: the stream is released, nothing is rotated), then the layer below, then `open()` -/
def CW.rotate (w : CW) (finishOk : Bool) (b : Below) : CW × Bool :=
  if !finishOk then ({ w with live := false }, true)
  else match b with
    | .switched => ({ live := true, start := false }, false)
    | _ => ({ live := false, start := true }, true)

/-- `write`: `true` = the data goes into a compressed stream, `false` = it is dropped (failure already reported) -/
def CW.write (w : CW) : CW × Bool :=
  let w1 : CW := if w.start then { live := true, start := false } else w
  (w1, w1.live)

/-- the code before the repair: `open()` was simply skipped when the layer below threw -/
def CW.rotateOld (w : CW) (finishOk : Bool) (b : Below) : CW × Bool :=
  if !finishOk then ({ w with live := false }, true)
  else match b with
    | .switched => ({ live := true, start := false }, false)
    | _ => ({ live := false, start := false }, true)

/-- D18 repaired: whenever the old stream could be finished, the first data written after the rotation goes into a stream -
    whether the layer below returned normally, threw after switching, or refused the destination (then the write fails below
    and is reported there). -/
theorem cw_write_after_rotation_is_not_dropped (w : CW) (b : Below) : ((w.rotate true b).1.write).2 = true := by
  cases b <;> rfl

/-- ... and the defect as it was: after "switched and threw" the data was dropped -/
theorem cw_old_dropped : ∃ w : CW, ((w.rotateOld true .switchedAndThrew).1.write).2 = false := ⟨⟨true, false⟩, rfl⟩

/-- a refused destination leaves no half-started stream behind: the next rotation's `finish()` has nothing to write to it -/
theorem cw_refused_leaves_no_stream (w : CW) : (w.rotate true .refused).1.live = false := rfl

/-- `CdnsExporter`: `m_blocks_written` -/
structure EX where
  blocksWritten : Nat
  deriving DecidableEq, Repr

/-- `rotate_output` (repaired): the counter is reset before the encoder rotates, so also when that throws -/
def EX.rotate (_ : EX) (_threw : Bool) : EX := { blocksWritten := 0 }
/-- before the repair the reset was skipped by the exception -/
def EX.rotateOld (e : EX) (threw : Bool) : EX := if threw then e else { blocksWritten := 0 }
/-- `write_block`: returns whether the file header is written first -/
def EX.writeBlock (e : EX) : EX × Bool := ({ blocksWritten := e.blocksWritten + 1 }, e.blocksWritten == 0)
/-- the closing break is written iff a block was written -/
def EX.writesBreak (e : EX) : Bool := decide (e.blocksWritten > 0)

/-- D17 repaired: after ANY rotation the next block starts with the file header and an output that received no block gets no break -/
theorem ex_header_after_rotation (e : EX) (threw : Bool) :
    ((e.rotate threw).writeBlock).2 = true ∧ (e.rotate threw).writesBreak = false := ⟨rfl, rfl⟩

theorem ex_old_lost_header : ∃ e : EX, ((e.rotateOld true).writeBlock).2 = false ∧ (e.rotateOld true).writesBreak = true :=
  ⟨⟨1⟩, rfl, rfl⟩

section Stack
open CdnsVerif.Model.Stack
variable (hdr : Bytes) (enc : List Nat → Bytes)

/-- **Failures are reported.**  Whatever the application calls, wherever the encoder flushes and whichever writes the OS
    rejects or cuts short: an output that was closed by `rotate_output` and during whose lifetime no API call threw (the
    closing call included – an output is only closed by a call that returns normally) has reached the OS complete. -/
theorem stack_failure_reported (ops : List Op) :
    ∀ o ∈ (run hdr enc St.init ops).1.closed, o.threw = false → o.os = o.given :=
  (run_inv hdr enc ops St.init (init_inv hdr enc)).core.2

/-- …and as long as nothing threw for the output still open, the OS and the staging buffer together hold everything produced -/
theorem stack_open_output_complete (ops : List Op) (h : (run hdr enc St.init ops).1.threw = false) :
    (run hdr enc St.init ops).1.w.out ++ (run hdr enc St.init ops).1.buf = (run hdr enc St.init ops).1.given :=
  let i := run_inv hdr enc ops St.init (init_inv hdr enc)
  i.core.1 (i.live h).1

/-- **What reaches the operating system is a complete file or nothing.**  For every API history, fault schedule and flush placement:
    an output closed by `rotate_output` during whose lifetime no API call threw holds – as accepted by the OS – either no byte at
    all, or exactly `header ++ block₁ ++ … ++ blockₙ ++ break` for the n ≥ 1 non-empty blocks written to it (C13/C02's "self-contained
    file or empty", here at the level of the system calls, combined with `stack_failure_reported`). -/
theorem stack_closed_output_is_complete_file (ops : List Op) :
    ∀ o ∈ (run hdr enc St.init ops).1.closed, o.threw = false →
      o.os = [] ∨ ∃ bl : List (List Nat), bl ≠ [] ∧ (∀ b ∈ bl, b ≠ []) ∧ o.os = hdr ++ (bl.map enc).flatten ++ [0xff] := by
  intro o ho hth
  rw [stack_failure_reported hdr enc ops o ho hth]
  exact (run_inv hdr enc ops St.init (init_inv hdr enc)).closed o ho hth

open CdnsVerif.Model.File CdnsVerif.Model.Schema CdnsVerif.Model.Structs in
/-- …in the notation of the file model: with the header the exporter writes for preamble `pv` and blocks serialised by the block
    writer (`blockOf` = the block value built from a group of records), a non-empty output closed without a reported failure is, byte
    for byte as accepted by the OS, `Model.File.fileBytes pv blocks` – the layout C01's and C02's theorems are stated for
    (read back completely, one well-formed RFC 8949 item, …). -/
theorem stack_closed_output_is_cdns_file (pv : Val) (blockOf : List Nat → Val) (ops : List Op) :
    let hdr := [0x83, 0x65] ++ cdnsText ++ writeBytes filePreamble pv ++ [0x9f]
    let enc := fun rs => writeBytes block (blockOf rs)
    ∀ o ∈ (run hdr enc St.init ops).1.closed, o.threw = false →
      o.os = [] ∨ ∃ bl : List (List Nat), bl ≠ [] ∧ o.os = fileBytes pv (bl.map blockOf) := by
  intro hdr enc o ho hth
  rcases stack_closed_output_is_complete_file hdr enc ops o ho hth with h | ⟨bl, hne, _, hos⟩
  · exact Or.inl h
  · refine Or.inr ⟨bl, hne, ?_⟩
    rw [hos]
    simp only [fileBytes, List.map_map, hdr, enc, List.append_assoc]
    rfl

/-- **A closed output receives no further bytes.**  Whatever the application goes on to do, the outputs closed so far stay exactly
    as they were (content accepted by the OS included): later calls only append further closed outputs. -/
theorem stack_closed_outputs_final (ops later : List Op) :
    ∃ ext, (run hdr enc St.init (ops ++ later)).1.closed = (run hdr enc St.init ops).1.closed ++ ext := by
  rw [run_append]
  exact (run_closed_prefix hdr enc later _).imp fun _ => Eq.symm

/-- **The failed block stays buffered.**  An exception out of `write_block()` leaves the buffered records (and the block
    counter) as they were; out of a `buffer_*()` call that flushes, the record just handed over is buffered too. -/
theorem stack_block_kept (s : St) (hc bc : Cuts) :
    ((step hdr enc s (.writeBlock hc bc)).2 = true → (step hdr enc s (.writeBlock hc bc)).1.cur = s.cur) ∧
    (∀ r, (step hdr enc s (.bufferW r hc bc)).2 = true → (step hdr enc s (.bufferW r hc bc)).1.cur = s.cur ++ [r]) :=
  ⟨fun h => ((writeBlock_spec hdr enc s hc bc).2.1 h).1,
   fun r h => ((writeBlock_spec hdr enc { s with cur := s.cur ++ [r] } hc bc).2.1 h).1⟩

/-- **Reported once.**  After the failure of the current output was reported, `write_block()` and flushing `buffer_*()` calls on it
    return normally (their data is dropped with the output that is lost anyway) – the exception is not repeated call after call –
    until the application rotates. -/
theorem stack_reported_once (s : St) (hf : s.w.failed = true) (hc bc : Cuts) :
    (step hdr enc s (.writeBlock hc bc)).2 = false ∧ (∀ r, (step hdr enc s (.bufferW r hc bc)).2 = false) ∧
    (step hdr enc s (.writeBlock hc bc)).1.w.failed = true :=
  ⟨((writeBlock_spec hdr enc s hc bc).1.failed hf).1, fun r => ((writeBlock_spec hdr enc { s with cur := s.cur ++ [r] } hc bc).1.failed hf).1,
   ((writeBlock_spec hdr enc s hc bc).1.failed hf).2⟩

/-- what `stack_recovery` starts from: `Model.Stack.Core`, and a writer whose failure flag is set has thrown.  An `i : Model.Stack.Inv hdr enc s`
    gives both (`i.core`, `fun h => (i.live h).1`) and every history keeps it (`run_inv`); its other half, the shape of the bytes, is not needed here. -/
def SInv (s : St) : Prop := Core s ∧ (s.threw = false → s.w.failed = false)

/-- **Rotation recovers.**  In any state in which the failure of the current output was reported (`m_failed`), with records
    buffered: `rotate_output(healthy, false)` returns normally whatever the old output still answers; the records are still
    buffered; `write_block()` on the new output (writes accepted) returns normally; and the rotation closing it returns
    normally and leaves exactly `header ++ block(records) ++ break`, all of it accepted by the OS. -/
theorem stack_recovery (s : St) (h : SInv s) (hf : s.w.failed = true) (hcur : s.cur ≠ [])
    (kc : Cuts) (r : Resp) (hc bc kc2 : Cuts) (hok : AllOk hc ∧ AllOk bc ∧ AllOk kc2) :
    let s1 := (step hdr enc s (.rotate false [] [] kc r))
    let s2 := (step hdr enc s1.1 (.writeBlock hc bc))
    let s3 := (step hdr enc s2.1 (.rotate false [] [] kc2 .ok))
    s1.2 = false ∧ s1.1.cur = s.cur ∧ s2.2 = false ∧ s2.1.cur = [] ∧ s3.2 = false ∧
    s3.1.closed.getLast? = some ⟨hdr ++ enc s.cur ++ [0xff], hdr ++ enc s.cur ++ [0xff], false⟩ := by
  -- `[] []`: the cuts for header and block, which a rotation without export does not read (`rotate_false`)
  -- the rotation away from the failed output: silent, since the failure was reported; the new output is fresh
  obtain ⟨a, t, ha, hqa, ea⟩ := rotate_false hdr enc s [] [] kc r
  cases (ha.failed hf).1
  obtain ⟨abuf, abw, acur⟩ := hqa rfl
  have e1 : step hdr enc s (.rotate false [] [] kc r) = (switch a, false) := by simp [step, ea]
  have c1 : Core (switch a) := switch_core (ha.core h.1) abuf fun hth => absurd (h.2 (ha.threw_eq ▸ hth)) (by simp [hf])
  obtain ⟨hb, -, bb⟩ := writeBlock_spec hdr enc (switch a) hc bc
  have t2 : (writeBlock hdr enc (switch a) hc bc).2 = false := hb.accepted ⟨hok.1, hok.2.1⟩ rfl
  have g2 : (writeBlock hdr enc (switch a) hc bc).1.given = hdr ++ enc s.cur := by
    rw [(hb.quiet t2).1]; simp [blockBytes, switch, acur, abw, hcur]
  have e2 : step hdr enc (switch a) (.writeBlock hc bc) = ((writeBlock hdr enc (switch a) hc bc).1, false) := by
    simp [step, t2]
  obtain ⟨b, t, hb3, hqb, eb⟩ := rotate_false hdr enc (writeBlock hdr enc (switch a) hc bc).1 [] [] kc2 .ok
  cases hb3.accepted ⟨hok.2.2, rfl⟩ ((hb.quiet t2).2 rfl)
  have g3 : b.given = hdr ++ enc s.cur ++ [0xff] := by
    rw [(hb3.quiet rfl).1, g2, (bb t2).2]; simp [switch, acur, abw, hcur]
  have o3 : b.w.out = b.given := by
    simpa [(hqb rfl).1] using (hb3.core (hb.core c1)).1 ((hb3.quiet rfl).2 ((hb.quiet t2).2 rfl))
  intro s1 s2 s3
  simp only [s1, s2, s3, e1, e2]
  refine ⟨trivial, acur, trivial, (bb t2).1, by simp [step, eb], ?_⟩
  simp only [step, eb, Bool.false_eq_true, if_false]
  show (b.closed ++ [(⟨b.w.out, b.given, b.threw⟩ : Closed)]).getLast? = _
  rw [o3, g3, hb3.threw_eq, hb.threw_eq]; simp [switch]

/-- the hypotheses of `stack_recovery` are met by a real history: a block whose flush the OS rejects -/
example : let s := (run [1, 2] (fun rs => rs) St.init [.buffer 7, .writeBlock [] [(1, some .fail)]]).1
    s.w.failed = true ∧ s.cur = [7] ∧ s.threw = true := by decide

/-- a rejected write that nobody reports would be visible here: the closed output of this history lost a byte and is flagged -/
example : ((run [1, 2] (fun rs => rs) St.init
    [.buffer 7, .writeBlock [] [(1, some .short)], .rotate false [] [] [] .ok]).1.closed.map fun o => (o.os, o.given, o.threw)) =
    [([1], [1, 2, 7], true)] := by decide

end Stack

end CdnsVerif.Props.C16
