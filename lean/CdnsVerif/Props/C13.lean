/-
  C13 — rotation yields self-contained files and loses, repeats or reorders nothing.

  Over `Model.Exporter`:
  * `closed_immutable`   an output closed by rotation receives nothing afterwards;
  * `output_shape`       every output is either empty (no block, zero bytes) or consists of the
                         file header written once, its blocks, and – once closed – one break;
  * `params_cover`       under the documented caller duty, the preamble of every output
                         contains every parameter set its blocks refer to;
  * conservation across outputs in rotation order is `C12.conservation_qr/mm`
    (`blocksOf` enumerates the outputs in rotation order); `carry_over` states that a
    rotation without export keeps the buffered block for the next output.
-/
import CdnsVerif.Proofs.Exporter

namespace CdnsVerif.Props.C13
open CdnsVerif.Model.Exporter

variable (hdr : Nat → Nat) (bsz : Block → Nat)

theorem step_done_prefix (s : ExpSt) (op : Op) : s.done <+: (step hdr bsz s op).1.done :=
  step_ind' (P := fun t => s.done <+: t.done) hdr bsz s op
    (start := List.prefix_rfl) (write := fun t h => by rwa [writeBlock_done])
    (close := fun _ _ _ h => h.trans (List.prefix_append _ _))
    (params := fun _ _ => List.prefix_rfl) (active := fun _ _ _ => List.prefix_rfl)

/-- An output closed by a rotation is never touched again: after any further history the
    list of closed outputs still starts with it, unchanged. -/
theorem closed_immutable (s : ExpSt) (ops : List Op) : ∃ ext, (run hdr bsz s ops).1.done = s.done ++ ext :=
  (run_ind (P := fun _ t => s.done <+: t.done) hdr bsz (fun t op _ h => h.trans (step_done_prefix hdr bsz t op)) ops s
    List.prefix_rfl).imp fun _ => Eq.symm

def bodySize (bl : List Block) : Nat := (bl.map bsz).sum

/-- an open output: header (once, sized by the preamble in force at its first block) + blocks -/
def OpenShape (o : Output) : Prop :=
  (o.blocks = [] → o.bytes = 0) ∧ (o.blocks ≠ [] → o.bytes = hdr o.params + bodySize bsz o.blocks)
/-- a closed output: nothing at all, or header + blocks + the single break -/
def ClosedShape (o : Output) : Prop :=
  (o.blocks = [] → o.bytes = 0) ∧ (o.blocks ≠ [] → o.bytes = hdr o.params + bodySize bsz o.blocks + 1)

def ShapeInv (s : ExpSt) : Prop :=
  s.blocksWritten = s.out.blocks.length ∧ OpenShape hdr bsz s.out ∧ ∀ o ∈ s.done, ClosedShape hdr bsz o

theorem bodySize_append (bl : List Block) (b : Block) : bodySize bsz (bl ++ [b]) = bodySize bsz bl + bsz b := by
  simp [bodySize]

theorem writeBlock_shape (s : ExpSt) (h : ShapeInv hdr bsz s) : ShapeInv hdr bsz (writeBlock hdr bsz s).1 := by
  unfold writeBlock
  by_cases hz : s.cur.items = 0
  · simp only [hz, if_true]; exact h
  · obtain ⟨hbw, ⟨ho1, ho2⟩, hd⟩ := h
    simp only [hz, if_false]
    refine ⟨by simp [hbw], ⟨by simp, fun _ => ?_⟩, hd⟩
    simp only
    by_cases h0 : s.blocksWritten = 0
    · have : s.out.blocks = [] := List.eq_nil_of_length_eq_zero (hbw.symm.trans h0)
      simp [h0, this, ho1 this, bodySize]
    · have hne : s.out.blocks ≠ [] := fun h => h0 (by rw [hbw, h]; rfl)
      simp only [h0, if_false, bodySize_append, ho2 hne]; omega

theorem closeOut_shape (s : ExpSt) (h : ShapeInv hdr bsz s) : ShapeInv hdr bsz (closeOut s).1 := by
  obtain ⟨hbw, ⟨ho1, ho2⟩, hd⟩ := h
  refine ⟨rfl, ⟨fun _ => rfl, fun h => absurd rfl h⟩,
    List.forall_mem_append.2 ⟨hd, List.forall_mem_singleton.2 ⟨fun hb => ?_, fun hb => ?_⟩⟩⟩
  · simp [ho1 hb, hbw, show s.out.blocks = [] from hb]
  · have : s.blocksWritten > 0 := hbw ▸ List.length_pos_iff.2 hb
    simp [this, ho2 hb]

theorem step_shape (s : ExpSt) (h : ShapeInv hdr bsz s) (op : Op) : ShapeInv hdr bsz (step hdr bsz s op).1 :=
  step_ind' hdr bsz s op (start := h) (write := writeBlock_shape hdr bsz) (close := fun _ _ => closeOut_shape hdr bsz)
    (params := fun _ _ => h) (active := fun _ _ _ => h)

/-- Every output of every history: an output to which no block was written has received no
    byte at all; otherwise it holds the file header exactly once, its blocks, and – when closed
    by rotation – exactly one closing break. -/
theorem output_shape (psets : List PSet) (ops : List Op) :
    ShapeInv hdr bsz (run hdr bsz (ExpSt.init psets) ops).1 := by
  apply run_ind (P := fun _ => ShapeInv hdr bsz) hdr bsz (fun s op _ hs => step_shape hdr bsz s hs op)
  exact ⟨rfl, ⟨fun _ => rfl, fun h => absurd rfl h⟩, nofun⟩

/-- the documented caller duty: a parameter set added while the current output already holds
    blocks is activated only after the next rotation -/
def Duty (s : ExpSt) : Op → Prop
  | .setActive i => s.blocksWritten = 0 ∨ i < s.out.params
  | _ => True

def dutiful (s : ExpSt) : List Op → Prop
  | [] => True
  | op :: ops => Duty s op ∧ dutiful (step hdr bsz s op).1 ops

def Covered (o : Output) : Prop := ∀ b ∈ o.blocks, b.pi < o.params

/-- how many parameter sets the preamble of the current output holds: all there are as long as no block has gone to it
    (`writeBlock` files this very number as `params` with the first block), the number filed from then on -/
def horizon (s : ExpSt) : Nat := if s.blocksWritten = 0 then s.psets.length else s.out.params

/-- the indices in use are below the horizon, so a block written now is covered -/
def CoverInv (s : ExpSt) : Prop :=
  s.active < horizon s ∧ s.cur.pi < horizon s ∧ horizon s ≤ s.psets.length ∧
  (s.blocksWritten = 0 → s.out.blocks = []) ∧ Covered s.out ∧ ∀ o ∈ s.done, Covered o

theorem writeBlock_cover (s : ExpSt) (h : CoverInv s) : CoverInv (writeBlock hdr bsz s).1 := by
  obtain ⟨ha, hc, hp, hnil, hco, hd⟩ := h
  unfold writeBlock
  split
  · exact ⟨ha, ha, hp, hnil, hco, hd⟩
  · -- the horizon stays where it is: `params` becomes `horizon s`, by computation
    refine ⟨ha, ha, hp, nofun, List.forall_mem_append.2 ⟨fun b hb => ?_, List.forall_mem_singleton.2 hc⟩, hd⟩
    have h0 : s.blocksWritten ≠ 0 := fun h0 => by simp [hnil h0] at hb
    simpa [horizon, h0] using hco b hb

theorem closeOut_cover (s : ExpSt) (h : CoverInv s) : CoverInv (closeOut s).1 := by
  obtain ⟨ha, hc, hp, hnil, hco, hd⟩ := h
  exact ⟨Nat.lt_of_lt_of_le ha hp, Nat.lt_of_lt_of_le hc hp, Nat.le_refl _, fun _ => rfl, nofun,
    List.forall_mem_append.2 ⟨hd, List.forall_mem_singleton.2 hco⟩⟩

theorem step_cover (s : ExpSt) (h : CoverInv s) (op : Op) (hduty : Duty s op) : CoverInv (step hdr bsz s op).1 := by
  refine step_ind' hdr bsz s op (start := ⟨h.1, (edit_pi s op).symm ▸ h.2.1, h.2.2⟩) (write := writeBlock_cover hdr bsz)
    (close := fun _ _ => closeOut_cover) (params := ?_) (active := ?_)
  · intro p _
    obtain ⟨ha, hc, hp, hrest⟩ := h
    unfold CoverInv horizon at *
    simp only [List.length_append, List.length_singleton]
    split
    · next h0 => rw [if_pos h0] at ha hc; exact ⟨Nat.lt_succ_of_lt ha, Nat.lt_succ_of_lt hc, Nat.le_refl _, hrest⟩
    · next h0 => rw [if_neg h0] at ha hc hp; exact ⟨ha, hc, Nat.le_succ_of_le hp, hrest⟩
  · intro i e hi
    subst e
    refine ⟨?_, h.2⟩
    show i < horizon s
    unfold horizon
    split
    · exact hi
    · exact hduty.resolve_left ‹_›

/-- Under the documented duty, in every output of every history each block refers to a
    parameter set that is in that output's own preamble. -/
theorem params_cover (psets : List PSet) (hne : psets ≠ []) (ops : List Op)
    (hd : dutiful hdr bsz (ExpSt.init psets) ops) :
    ∀ o ∈ outputs (run hdr bsz (ExpSt.init psets) ops).1, Covered o := by
  have hlen : 0 < psets.length := List.length_pos_iff.2 hne
  have hinit : CoverInv (ExpSt.init psets) := ⟨hlen, hlen, Nat.le_refl _, fun _ => rfl, nofun, nofun⟩
  obtain ⟨⟨_, _, _, _, hco, hdn⟩, _⟩ := run_ind (P := fun rest t => CoverInv t ∧ dutiful hdr bsz t rest) hdr bsz
    (fun t op _ h => ⟨step_cover hdr bsz t h.1 op h.2.1, h.2.2⟩) ops _ ⟨hinit, hd⟩
  exact List.forall_mem_append.2 ⟨hdn, List.forall_mem_singleton.2 hco⟩

/-- a rotation without export keeps the buffered block: its records go to the next output -/
theorem carry_over (s : ExpSt) : (step hdr bsz s (.rotate false)).1.cur = s.cur := by
  simp [step]

end CdnsVerif.Props.C13
